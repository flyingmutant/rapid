/-
  RapidProofs.PruneStable — L-PS: replaying the PRUNED recording of a run (the recorded words
  minus every finished discarded group) reproduces the run: same value or failure, same
  `*T`, consumes exactly the pruned words, and nothing is left to prune.

  `PS p` is stated for runs that end in a value or a failure ("Good": not invalid data), for
  every source, followed by any extra words `xs` (`xs = []` if the run overran the buffer).

  The work is done for a relation between TWO programs, `RepBy A p q`: a loop that discards
  rejected attempts is replayed by the same loop with more fuel left and in another state (`q ≠ p`), and
  an attempt need only replay when it is kept (`A`); `PS p` is `RepBy (fun _ => True) p p`.
-/
import RapidProofs.Bind
import RapidProofs.Fragment
import RapidProofs.RecBound

namespace Rapid

/-- the run ended in a value or a failure: not in invalid data (and not in the model's
    out-of-fuel artefact) -/
def Good (o : Out) : Prop := ∀ e, o.res = .error e → e.isInvalid = false ∧ e ≠ .fuel

theorem good_of_res {o o' : Out} (h : o'.res = o.res) (hg : Good o) : Good o' := by
  intro e he; exact hg e (by rw [← h]; exact he)

theorem good_after {o : Out} {u k : List UInt64} {t : List Tok} {e : List Ev} {ov : Bool}
    (h : Good (o.after u k t e ov)) : Good o := good_of_res (by simp) h

theorem good_ok {o : Out} {v : Val} (h : o.res = .ok v) : Good o := by
  intro e he; rw [h] at he; cases he

theorem not_good_invalid {o : Out} {m : String} (h : o.res = .error (.invalid m)) : ¬ Good o := by
  intro hg; have := (hg _ h).1; simp [Err.isInvalid] at this

theorem not_good_fuel {o : Out} (h : o.res = .error .fuel) : ¬ Good o := by
  intro hg; exact (hg _ h).2 rfl

structure Replayed (o o' : Out) (xs : List UInt64) : Prop where
  res : o'.res = o.res
  src : o'.src = .buf xs
  ts : o'.ts = o.ts
  used : o'.used = o.kept
  kept : o'.kept = o.kept

def PS (p : Prog) : Prop :=
  ∀ (src : Src) (ts : TS) (xs : List UInt64), Good (p.run src ts) → ((p.run src ts).overran = true → xs = []) →
    Replayed (p.run src ts) (p.run (.buf ((p.run src ts).kept ++ xs)) ts) xs

/-- the `*T` is not touched (generators; rejected attempts must be like this) -/
def TsPure (p : Prog) : Prop := ∀ (src : Src) (ts : TS), (p.run src ts).ts = ts

/-- a successful run that recorded something also keeps something (needed by `endGroup`'s
    "group did not use any data" assertion on the pruned replay) -/
def KeepsSome (p : Prog) : Prop :=
  ∀ (src : Src) (ts : TS) (v : Val), (p.run src ts).res = .ok v → (p.run src ts).used ≠ [] → (p.run src ts).kept ≠ []

/-- `KeepsSome` asked only of the runs whose value is in `A` — for a group's body, those after which it is not discarded -/
def KeepsOn (A : Val → Prop) (p : Prog) : Prop :=
  ∀ (src : Src) (ts : TS) (v : Val), (p.run src ts).res = .ok v → A v → (p.run src ts).used ≠ [] → (p.run src ts).kept ≠ []

theorem KeepsSome.on {p : Prog} (h : KeepsSome p) {A : Val → Prop} : KeepsOn A p := fun src ts v hv _ => h src ts v hv

/-- `q` reproduces from the pruned recording every run of `p` that ends in a failure or in a value in `A` -/
def RepBy (A : Val → Prop) (p q : Prog) : Prop :=
  ∀ (src : Src) (ts : TS) (xs : List UInt64), Good (p.run src ts) → (∀ v, (p.run src ts).res = .ok v → A v) →
    ((p.run src ts).overran = true → xs = []) →
    Replayed (p.run src ts) (q.run (.buf ((p.run src ts).kept ++ xs)) ts) xs

theorem PS.rep {p : Prog} (h : PS p) {A : Val → Prop} : RepBy A p p := fun src ts xs hg _ ho => h src ts xs hg ho

theorem RepBy.ps {p : Prog} (h : RepBy (fun _ => True) p p) : PS p := fun src ts xs hg ho => h src ts xs hg (fun _ _ => trivial) ho

theorem rep_of_not_good {A : Val → Prop} {p q : Prog} (h : ∀ src ts, ¬ Good (p.run src ts)) : RepBy A p q :=
  fun src ts _ hg _ _ => absurd hg (h src ts)

theorem rep_ret {A : Val → Prop} {v : Val} : RepBy A (.ret v) (.ret v) := fun _ _ _ _ _ _ => ⟨rfl, rfl, rfl, rfl, rfl⟩

theorem ps_ret (v : Val) : PS (.ret v) := rep_ret.ps
theorem ps_throw (e : Err) : PS (.throw e) := fun _ _ _ _ _ => ⟨rfl, rfl, rfl, rfl, rfl⟩

theorem Replayed.after {o r : Out} {xs u k : List UInt64} {t t' : List Tok} {e e' : List Ev} {ov ov' : Bool}
    (h : Replayed o r xs) : Replayed (o.after u k t e ov) (r.after k k t' e' ov') xs :=
  ⟨by simpa using h.res, by simpa using h.src, by simpa using h.ts, by simp [h.used], by simp [h.kept]⟩

/-- the replaying draw may ask for another number of bits, as long as every word the first can record passes its mask:
    the zero-bit coin of a forced stop (`moreCoin`) is replayed by a 53-bit coin (`rep_forced`) -/
theorem rep_draw {A : Val → Prop} {n n' : Nat} {k k' : UInt64 → Prog}
    (h : ∀ u, mask n u = u → mask n' u = u ∧ RepBy A (k u) (k' u)) : RepBy A (.draw n k) (.draw n' k') := by
  intro src ts xs hg hA ho
  cases hn : src.next n with
  | none => exact absurd hg (not_good_invalid (m := "overrun") (by simp [Prog.run, hn, Out.ofRes]))
  | some r =>
    obtain ⟨u, src'⟩ := r
    obtain ⟨hm, hk⟩ := h u (next_masked hn)
    simp only [Prog.run, hn] at hg hA ho ⊢
    simp only [after_kept, List.cons_append, buf_next_cons hm]
    exact (hk src' ts xs (good_after hg) hA (by simpa using ho)).after

theorem ps_draw (n : Nat) (k : UInt64 → Prog) (ih : ∀ u, PS (k u)) : PS (.draw n k) :=
  (rep_draw fun u hu => ⟨hu, (ih u).rep⟩).ps

theorem RepBy.first {A : Val → Prop} {p p' : Prog} (h : RepBy A p p') (rest : Prog) {src : Src} {ts : TS} {xs : List UInt64} {v : Val}
    (hres : (p.run src ts).res = .ok v) (hA : A v)
    (ho : (p.run src ts).overran = true ∨ (rest.run (p.run src ts).src (p.run src ts).ts).overran = true → xs = []) :
    Replayed (p.run src ts)
      (p'.run (.buf ((p.run src ts).kept ++ ((rest.run (p.run src ts).src (p.run src ts).ts).kept ++ xs))) ts)
      ((rest.run (p.run src ts).src (p.run src ts).ts).kept ++ xs) := by
  refine h src ts _ (good_ok hres) (fun w hw => ?_) (fun hov => ?_)
  · rw [hres] at hw; cases hw; exact hA
  · rw [overran_src p src ts hov, (run_empty rest _).2.1, ho (Or.inl hov)]; rfl

/-- A kept body must replay and keep a word if it recorded one (else the assertion of `endGroup` fires on
    the replay only); a discarded body must leave the `*T` alone, and what follows it must be replayed by
    the whole replaying group — its words are all the replay sees. -/
theorem rep_group {A : Val → Prop} {l l' : String} {s s' : Bool} {b b' : Prog} {d : Val → Bool} {k k' : Val → Prog}
    (hb : RepBy (fun v => d v = false) b b')
    (hne : KeepsOn (fun v => d v = false) b)
    (hk : ∀ src ts v, (b.run src ts).res = .ok v → d v = false → RepBy A (k v) (k' v))
    (hd : ∀ src ts v, (b.run src ts).res = .ok v → d v = true →
      (b.run src ts).ts = ts ∧ RepBy A (k v) (.group l' s' b' d k')) :
    RepBy A (.group l s b d k) (.group l' s' b' d k') := by
  intro src ts xs hg hA ho
  cases hres : (b.run src ts).res with
  | error e =>
    rw [group_run_error hres] at hg hA ho ⊢
    have r := hb src ts xs (good_of_res rfl hg) (fun v h => by rw [hres] at h; cases h) ho
    rw [group_run_error (r.res.trans hres)]
    exact ⟨r.res, r.src, r.ts, r.used, r.kept⟩
  | ok v =>
    cases hdv : d v with
    | true =>
      obtain ⟨hts, hkv⟩ := hd src ts v hres hdv
      rw [group_run_cont hres (Or.inl hdv), hdv, if_pos rfl, hts] at hg hA ho ⊢
      rw [after_overran, Bool.or_eq_true] at ho
      have r := hkv (b.run src ts).src ts xs (good_after hg) hA (fun h => ho (Or.inr h))
      rw [after_kept, List.nil_append]
      exact ⟨r.res, r.src, r.ts, r.used, r.kept⟩
    | false =>
      by_cases hu : (b.run src ts).used = []
      · -- the assertion fires in the original run; nothing was recorded, nothing is replayed
        rw [group_run_assert hres (by simp [hdv, hu])] at hg hA ho ⊢
        have hk0 : (b.run src ts).kept = [] := List.eq_nil_of_sublist_nil (hu ▸ kept_sublist b src ts)
        have r := hb src ts xs (good_ok hres) (fun w hw => by rw [hres] at hw; cases hw; exact hdv) ho
        rw [group_run_assert (r.res.trans hres) (by rw [r.used]; simp [hdv, hk0])]
        exact ⟨rfl, r.src, r.ts, r.used, r.kept⟩
      · rw [group_run_cont hres (Or.inr hu), hdv, if_neg Bool.false_ne_true] at hg hA ho ⊢
        rw [after_overran, Bool.or_eq_true] at ho
        have r1 := hb.first (k v) hres hdv ho
        rw [after_kept, List.append_assoc, group_run_cont (r1.res.trans hres) (Or.inr (by rw [r1.used]; exact hne src ts v hres hdv hu)),
          hdv, if_neg Bool.false_ne_true, r1.src, r1.ts, r1.used, r1.kept]
        exact (hk src ts v hres hdv _ _ xs (good_after hg) hA (fun h => ho (Or.inr h))).after

theorem ps_group_keep {l : String} {s : Bool} {b : Prog} {k : Val → Prog}
    (hb : PS b) (hk : ∀ v, PS (k v)) (hne : KeepsSome b) : PS (.group l s b (fun _ => false) k) :=
  (rep_group hb.rep hne.on (fun _ _ v _ _ => (hk v).rep) (fun _ _ _ _ h => by cases h)).ps

theorem rep_bind {A : Val → Prop} {p p' : Prog} {f f' : Val → Prog} (hp : RepBy (fun _ => True) p p')
    (hf : ∀ v, RepBy A (f v) (f' v)) : RepBy A (p >>- f) (p' >>- f') := by
  intro src ts xs hg hA ho
  cases hres : (p.run src ts).res with
  | error e =>
    rw [bind_run_error hres] at hg hA ho ⊢
    have r := hp src ts xs hg (fun _ _ => trivial) ho
    rw [bind_run_error (r.res.trans hres)]; exact r
  | ok v =>
    rw [bind_run_ok hres] at hg hA ho ⊢
    rw [after_overran, Bool.or_eq_true] at ho
    have r1 := hp.first (f v) hres trivial ho
    rw [after_kept, List.append_assoc, bind_run_ok (r1.res.trans hres), r1.src, r1.ts, r1.used, r1.kept]
    exact (hf v _ _ xs (good_after hg) hA (fun h => ho (Or.inr h))).after

theorem ps_bind {p : Prog} {f : Val → Prog} (hp : PS p) (hf : ∀ v, PS (f v)) : PS (p >>- f) :=
  (rep_bind hp.rep fun v => (hf v).rep).ps

/-- `p` is `k` after a step that records nothing and changes the `*T` by `f` -/
def StepOf (f : TS → TS) (p k : Prog) : Prop :=
  ∀ src ts, ∃ e, p.run src ts = (k.run src (f ts)).after [] [] [] e false

theorem stepOf_errorf (m : String) (k : Prog) : StepOf (fun ts => { ts with failed := some m }) (.errorf m k) k := fun _ _ => ⟨_, rfl⟩
theorem stepOf_emit (id : Nat) (k : Prog) : StepOf (fun ts => ts) (.emit id k) k := fun _ _ => ⟨_, rfl⟩
theorem stepOf_tick (k : Prog) : StepOf (fun ts => { ts with draws := ts.draws + 1 }) (.tick k) k := fun _ _ => ⟨[], (after_nil _).symm⟩
theorem stepOf_cleanup (c : CTree) (k : Prog) : StepOf (fun ts => { ts with cleanups := c :: ts.cleanups }) (.cleanup c k) k :=
  fun _ _ => ⟨[], (after_nil _).symm⟩
theorem stepOf_ctx (k : Prog) :
    StepOf (fun ts => match ts.ctx with
      | some _ => ts
      | none => { ts with ctx := some ts.ctxCount, ctxCount := ts.ctxCount + 1 }) (.ctx k) k :=
  fun src ts => by simp only [Prog.run]; cases ts.ctx <;> exact ⟨_, rfl⟩

theorem StepOf.ts {f : TS → TS} {p k : Prog} (h : StepOf f p k) (src : Src) (ts : TS) : (p.run src ts).ts = (k.run src (f ts)).ts := by
  obtain ⟨e, h1⟩ := h src ts; rw [h1]; rfl

theorem StepOf.ps {f : TS → TS} {p k : Prog} (h : StepOf f p k) (hk : PS k) : PS p := by
  intro src ts xs hg ho
  obtain ⟨e, h1⟩ := h src ts
  obtain ⟨e', h2⟩ := h (.buf ((p.run src ts).kept ++ xs)) ts
  rw [h2]; rw [h1] at hg ho ⊢
  rw [after_kept, List.nil_append]
  exact (hk src (f ts) xs (good_after hg) (by simpa using ho)).after

theorem StepOf.keeps {f : TS → TS} {p k : Prog} (h : StepOf f p k) (hk : KeepsSome k) : KeepsSome p := by
  intro src ts v hv hu
  obtain ⟨e, h1⟩ := h src ts
  rw [h1] at hv hu ⊢
  simpa using hk src (f ts) v (by simpa using hv) (by simpa using hu)

theorem ps_errorf (m : String) (k : Prog) (hk : PS k) : PS (.errorf m k) := (stepOf_errorf m k).ps hk
theorem ps_emit (id : Nat) (k : Prog) (hk : PS k) : PS (.emit id k) := (stepOf_emit id k).ps hk
theorem ps_tick (k : Prog) (hk : PS k) : PS (.tick k) := (stepOf_tick k).ps hk
theorem ps_cleanup (c : CTree) (k : Prog) (hk : PS k) : PS (.cleanup c k) := (stepOf_cleanup c k).ps hk
theorem ps_ctx (k : Prog) (hk : PS k) : PS (.ctx k) := (stepOf_ctx k).ps hk

theorem ps_failOnError (site : Nat) (k : Prog) (hk : PS k) : PS (.failOnError site k) := by
  intro src ts xs hg ho
  simp only [Prog.run] at hg ho ⊢
  cases hf : ts.failed with
  | some m => simp only [Out.ofRes, List.nil_append]; exact ⟨rfl, rfl, rfl, rfl, rfl⟩
  | none => simp only [hf] at hg ho ⊢; exact hk src ts xs hg ho

/-- the strongest of the three grades (`FirstKept → KeepsSome → KeepsOn A`): a successful run keeps a word, without the
    proviso that it recorded one — what a program that begins with a kept draw has, and what survives `>>-` on the left -/
def FirstKept (p : Prog) : Prop := ∀ (src : Src) (ts : TS) (v : Val), (p.run src ts).res = .ok v → (p.run src ts).kept ≠ []

theorem FirstKept.keepsSome {p : Prog} (h : FirstKept p) : KeepsSome p := fun src ts v hv _ => h src ts v hv

theorem FirstKept.keepsOn {p : Prog} (h : FirstKept p) {A : Val → Prop} : KeepsOn A p := fun src ts v hv _ _ => h src ts v hv

theorem fk_throw {e : Err} : FirstKept (.throw e) := fun _ _ _ h => by cases h

theorem fk_draw {n : Nat} {k : UInt64 → Prog} : FirstKept (.draw n k) := by
  intro src ts v h
  simp only [Prog.run] at h ⊢
  cases hn : src.next n with
  | none => simp [hn, Out.ofRes] at h
  | some r => simp

theorem fk_group {l : String} {s : Bool} {b : Prog} {d : Val → Bool} {k : Val → Prog}
    (hb : KeepsOn (fun v => d v = false) b)
    (hd : ∀ src ts v, (b.run src ts).res = .ok v → d v = true → FirstKept (k v)) : FirstKept (.group l s b d k) := by
  intro src ts w h
  cases hres : (b.run src ts).res with
  | error e => rw [group_run_error hres] at h; exact absurd (hres.symm.trans h) (by simp)
  | ok v =>
    by_cases hc : d v = true ∨ (b.run src ts).used ≠ []
    · rw [group_run_cont hres hc] at h ⊢
      rw [after_kept]
      cases hdv : d v with
      | true => rw [if_pos rfl, List.nil_append]; exact hd src ts v hres hdv _ _ w h
      | false =>
        rw [if_neg Bool.false_ne_true]
        exact fun hnil => hb src ts v hres hdv (hc.resolve_left (by simp [hdv])) (List.append_eq_nil_iff.mp hnil).1
    · rw [group_run_assert hres hc] at h
      cases h

theorem fk_group_keep {l : String} {s : Bool} {b : Prog} {k : Val → Prog} (hb : FirstKept b) :
    FirstKept (.group l s b (fun _ => false) k) :=
  fk_group hb.keepsOn (fun _ _ _ _ h => by cases h)

theorem fk_bind_left {p : Prog} {f : Val → Prog} (hp : FirstKept p) : FirstKept (p >>- f) := by
  intro src ts v h
  obtain ⟨w, hw⟩ := bind_ok_left h
  rw [bind_run_ok hw, after_kept]
  exact fun hnil => hp src ts w hw (List.append_eq_nil_iff.mp hnil).1

theorem tp_draw {n : Nat} {k : UInt64 → Prog} (hk : ∀ u, TsPure (k u)) : TsPure (.draw n k) := by
  intro src ts
  simp only [Prog.run]
  cases src.next n with
  | none => rfl
  | some r => simp only [after_ts]; exact hk _ _ _

theorem tp_group {l : String} {s : Bool} {b : Prog} {d : Val → Bool} {k : Val → Prog}
    (hb : TsPure b) (hk : ∀ v, TsPure (k v)) : TsPure (.group l s b d k) := by
  intro src ts
  cases hres : (b.run src ts).res with
  | error e => rw [group_run_error hres]; exact hb src ts
  | ok v =>
    by_cases hc : d v = true ∨ (b.run src ts).used ≠ []
    · rw [group_run_cont hres hc, after_ts, hk v]; exact hb src ts
    · rw [group_run_assert hres hc]; exact hb src ts

theorem tp_bind {p : Prog} {f : Val → Prog} (hp : TsPure p) (hf : ∀ v, TsPure (f v)) : TsPure (p >>- f) := by
  intro src ts
  cases hres : (p.run src ts).res with
  | error e => rw [bind_run_error hres]; exact hp src ts
  | ok v => rw [bind_run_ok hres, after_ts, hf v]; exact hp src ts

end Rapid
