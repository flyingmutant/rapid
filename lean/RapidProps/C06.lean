/-
  C06 — a failure is persisted and automatically replayed first on the next run.
-/
import RapidModel.Generated.CallOrders
import RapidModel.Generated.Consts
import RapidProofs.RoundTrip
import RapidProofs.TranslatedCheckEq
import RapidProofs.TranslatedPersistEq

namespace Rapid.C06

/-- a file name built as `<prefix><anything without '/'>.fail` matches `<prefix>*.fail` -/
theorem name_matches_pattern (pre mid suf : List Nat) (h : ¬ mid.contains 47) :
    starMatch pre suf (pre ++ mid ++ suf) = true := by
  have hs : suf <:+ pre ++ (mid ++ suf) := (List.suffix_append mid suf).trans (List.suffix_append pre _)
  simpa [starMatch, List.append_assoc, hs] using h

/-- the sanitised test name contains only letters, digits, '-' and '_' — in particular no path
    separator and no glob metacharacter (for every classification of runes that puts none of
    them among letters/digits, which `unicode` satisfies) -/
theorem safe_name_alphabet (isLD : Nat → Bool) (reserved : List Nat → Bool) (name : List Nat) :
    ∀ r ∈ safeName isLD reserved name, isLD r = true ∨ r = 45 ∨ r = 95 := by
  have hmap : ∀ r ∈ name.map (fun r => if isLD r ∨ r == 45 ∨ r == 95 then r else 95), isLD r = true ∨ r = 45 ∨ r = 95 :=
    List.forall_mem_map.mpr fun x _ => by
      split
      · next h => simpa using h
      · exact .inr (.inr rfl)
  intro r hr
  simp only [safeName] at hr
  split at hr
  · exact (List.mem_append.mp hr).elim (hmap r) fun h => .inr (.inr (List.mem_singleton.mp h))
  · exact hmap r hr

/-- a loadable fail file whose test case still fails is reported before any random test case -/
theorem replayed_first (p : Prog) (checks : Nat) (seed : UInt64) (files : List FF) (early : Nat → Bool)
    (cands : List (List UInt64)) (r : Nat × List UInt64 × Option Err × Option Err)
    (h : firstFailFile p files 0 = some r) :
    (doCheck p checks seed files early cands).seeds = [] ∧ (doCheck p checks seed files early cands).valid = 0 ∧
    (doCheck p checks seed files early cands).buf = r.2.1 := by
  simp [doCheck, h]

/-- **the source's `doCheck` replays a usable fail file before anything else**: when one of the files it looks at (the one named
    with `-rapid.failfile` first, then what the glob finds, in that order) holds a test case that still fails, the source hands
    back "0 valid, 0 invalid" — no random test case was generated —, the name of that file, its words and the errors of the two
    replays -/
theorem source_failfile_replayed_first (E : Go.CEnv) (checks : Nat) (hc : checks < 2 ^ 62) (seed : UInt64) (failfile : String)
    (globf : Bool) (fuel : Nat) (hl : (Go.failFileNames failfile globf E.found).length < 2 ^ 62)
    (hfuel : (Go.failFileNames failfile globf E.found).length < fuel)
    (i : Nat) (b : List UInt64) (e1 e2 : Option Err)
    (h : firstFailFile E.p ((Go.failFileNames failfile globf E.found).map E.file) 0 = some (i, b, e1, e2)) :
    (Go.CM.run E (Translated.doCheck (Int64.ofNat checks) seed failfile globf fuel) none).1 =
      .ok (0, 0, false, 0, (Go.failFileNames failfile globf E.found).getD i "", b, e1, e2) := by
  rw [Go.tr_doCheck E checks hc seed failfile globf fuel hl hfuel]
  simp [Go.dcOut, doCheck, h]

/-- …and replaying the persisted words reproduces the persisted test case exactly -/
theorem persisted_case_replays (p : Prog) (src : Src) (h : (checkOnce p src TS.fresh).overran = false) :
    checkOnce p (.buf (checkOnce p src TS.fresh).used) TS.fresh = { checkOnce p src TS.fresh with src := .buf [] } := by
  have := checkOnce_replay p src TS.fresh [] h
  simpa using this

/-- **the fail-file format round-trips**: whatever the test logged — any bytes, nothing, lines of
    any length, '#', '\r', no final newline — `loadFailFile` reads back exactly the version, the
    seed and every word that `saveFailFile` wrote -/
theorem save_load_round_trip (v : Bytes) (hv : VersionOK v) (output : Bytes) (seed : UInt64) (buf : List UInt64) :
    loadBytes (saveBytes v output seed buf) = .ok (v, seed, buf) := load_save v hv output seed buf

/-- the current version string is one the format can carry; its bytes are the ASCII codes of
    `rapidVersion` (which `version_source` ties to the source) -/
theorem current_version_ok : VersionOK versionBytes ∧
    rapidVersion.toList.map (fun c => c.toNat) = versionBytes.map (fun b => b.toNat) :=
  ⟨versionOK_current, by decide⟩

/-- in particular the empty test case and the empty output -/
example : loadBytes (saveBytes versionBytes [] 0 []) = .ok (versionBytes, 0, []) :=
  load_save _ versionOK_current _ _ _

theorem version_source : Rapid.Generated.c_rapidVersion = rapidVersion := rfl

/-- **what `saveFailFile` of /repo writes into the file is the model's `saveBytes`** (the comment lines, the header
    `version#seed`, one `0x…` line per word, joined by newlines), and it reports no error of its own -/
theorem source_saveFailFile (version output : Bytes) (seed : UInt64) (buf : List UInt64) (fuel : Nat)
    (ho : output.length < 2 ^ 61) (hb : buf.length < 2 ^ 62) (hf1 : output.length + 1 < fuel) (hf2 : buf.length < fuel) :
    Rapid.Translated.saveFailFile_bytes version output seed buf fuel = .ok (saveBytes version output seed buf, false) :=
  tr_saveFailFile version output seed buf fuel ho hb hf1 hf2

/-- **`loadFailFile` of /repo, from the lines of the file on, is the model's `loadBytes`**: the same version, seed and words, and
    an error exactly when the model has one (no data, a header that is not `version#seed`, a seed or a word that is not a number
    of at most 64 bits) -/
theorem source_loadFailFile (bs : Bytes) (fuel : Nat) (hl : (scanLines bs).length < 2 ^ 61) (hf : (scanLines bs).length + 1 < fuel)
    (hlines : ∀ l ∈ scanLines bs, (trimSpace l).length < 2 ^ 61) :
    Rapid.Translated.loadFailFile_bytes (scanLines bs) fuel = .ok (loadT (loadBytes bs)) :=
  tr_loadFailFile bs fuel hl hf hlines

/-- **the round trip for the source**: what the source's `saveFailFile` wrote, read by the source's `loadFailFile`, gives back the
    version, the seed and every word, and no error — for every version string the format can carry, every captured output, seed
    and bitstream (the file being shorter than 2^61 lines of fewer than 2^61 bytes) -/
theorem source_save_load_round_trip (v : Bytes) (hv : VersionOK v) (output : Bytes) (seed : UInt64) (buf : List UInt64) (fuel : Nat)
    (ho : output.length < 2 ^ 61) (hb : buf.length < 2 ^ 62) (hf1 : output.length + 1 < fuel) (hf2 : buf.length < fuel)
    (hl : (scanLines (saveBytes v output seed buf)).length < 2 ^ 61) (hf : (scanLines (saveBytes v output seed buf)).length + 1 < fuel)
    (hlines : ∀ l ∈ scanLines (saveBytes v output seed buf), (trimSpace l).length < 2 ^ 61) :
    (Rapid.Translated.saveFailFile_bytes v output seed buf fuel >>= fun w =>
      Rapid.Translated.loadFailFile_bytes (scanLines w.1) fuel) = .ok (v, seed, buf, false) := by
  rw [source_saveFailFile v output seed buf fuel ho hb hf1 hf2]
  show Rapid.Translated.loadFailFile_bytes (scanLines (saveBytes v output seed buf)) fuel = _
  rw [source_loadFailFile _ fuel hl hf hlines, save_load_round_trip v hv output seed buf]
  rfl

/-- the hypotheses are satisfiable -/
example : ∃ w, Rapid.Translated.saveFailFile_bytes [118, 49] [104, 105] 7 [255, 1] 10 = .ok (w, false) :=
  ⟨_, source_saveFailFile [118, 49] [104, 105] 7 [255, 1] 10 (by decide) (by decide) (by decide) (by decide)⟩

/-- `checkTB` re-read from /repo statement by statement: a failure is saved exactly when no fail file reproduced it and
    `-rapid.nofailfile` is off — under `failFileName(tb.Name())`, with `rapidVersion`, the captured output, the seed and the
    minimized words `doCheck` handed back —, and a save error only loses the file name in the message -/
theorem checkTB_body_source : Rapid.Generated.body_checkTB =
    ["{", "tb.Helper()", "checks := flags.checks", "if testing.Short() {", "checks /= 5", "}", "start := time.Now()",
     "valid, invalid, earlyExit, seed, failfile, buf, err1, err2 := doCheck(tb, deadline, checks, baseSeed(), flags.failfile, true, prop)",
     "dt := time.Since(start)", "if err1 == nil && err2 == nil {",
     "if valid == checks || (earlyExit && valid > 0) {", "tb.Logf(\"[rapid] OK, passed %v tests (%v)\", valid, dt)",
     "} else {", "tb.Errorf(\"[rapid] only generated %v valid tests from %v total (%v)\", valid, valid+invalid, dt)",
     "}", "} else {", "if failfile == \"\" && !flags.nofailfile {", "_, failfile = failFileName(tb.Name())",
     "out := captureTestOutput(tb, prop, buf)", "err := saveFailFile(failfile, rapidVersion, out, seed, buf)",
     "if err != nil {", "tb.Logf(\"[rapid] %v\", err)", "failfile = \"\"", "}", "}", "var repr string", "switch {",
     "case failfile != \"\" && seed != 0:",
     "repr = fmt.Sprintf(\"-rapid.failfile=%q (or -rapid.seed=%d)\", failfile, seed)", "case failfile != \"\":",
     "repr = fmt.Sprintf(\"-rapid.failfile=%q\", failfile)", "case seed != 0:",
     "repr = fmt.Sprintf(\"-rapid.seed=%d\", seed)", "}", "name := regexp.QuoteMeta(tb.Name())",
     "if traceback(err1) == traceback(err2) {", "if err2.isStopTest() {",
     "tb.Errorf(\"[rapid] failed after %v tests: %v\\nTo reproduce, specify -run=%q %v\\nFailed test output:\", valid, err2, name, repr)",
     "} else {",
     "tb.Errorf(\"[rapid] panic after %v tests: %v\\nTo reproduce, specify -run=%q %v\\nTraceback:\\n%vFailed test output:\", valid, err2, name, repr, traceback(err2))",
     "}", "} else {",
     "tb.Errorf(\"[rapid] flaky test, can not reproduce a failure\\nTo try to reproduce, specify -run=%q %v\\nTraceback (%v):\\n%vOriginal traceback (%v):\\n%vFailed test output:\", name, repr, err2, traceback(err2), err1, traceback(err1))",
     "}", "_ = checkOnce(newT(tb, newBufBitStream(buf, false), true, nil), prop)", "}", "if tb.Failed() {",
     "tb.FailNow()", "}", "}"] := by rfl

end Rapid.C06
