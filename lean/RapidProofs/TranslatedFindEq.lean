/-
  RapidProofs.TranslatedFindEq — combinators.go as translated from /repo on every run: `find` (the retry loop of Filter
  and Custom), `filteredGen.maybeValue`, `filteredGen.value`, `customGen.value`, `mappedGen.value` — generic functions and
  methods, their sub-generators (function parameters, `*Generator` fields, method values) in continuation-passing
  style — against the model (`findLoop`, the `.filter`, `.custom` and `.map` cases of `Gen.body`); and `Generator.value`
  of generator.go against `wrapValue` (`tr_generator_value`).
-/
import RapidProofs.TranslatedProgEq
namespace Rapid
open Rapid.Go

/-- values of the model as Go values of a type parameter -/
instance : Go.Enc Val := ⟨id, id⟩

/-- **`find` of /repo is the model's `findLoop`** — as programs, not only as runs: five tries, each in a group `try` that
    is discarded when the attempt did not give a value; the failure after the last try -/
theorem tr_find {V : Type} [Go.Enc V] [Inhabited V] (fe : Go.FEval) (gen : (V → Bool → Prog) → Prog) (k : V → Prog) (fuel : Nat) :
    Translated.find fe gen 5 (fuel + 6) k =
      findLoop (gen fun v ok => .ret (Go.Enc.enc (v, ok))) (fun val => (Go.Enc.dec val : V × Bool).2)
        (fun val => k (Go.Enc.dec val : V × Bool).1) 5 := by
  -- six unfoldings of the source's loop: the guards `n < 5` and the message of the last one are closed terms
  rfl

theorem ret_ite (c : Bool) (a b : Val) : (if c then Prog.ret a else Prog.ret b) = Prog.ret (if c then a else b) := by
  cases c <;> rfl

/-- **`Filter` of /repo** (`filteredGen.value` = `find(g.maybeValue, t, small)` with `maybeValue` drawing from the inner
    generator and asking the predicate; all three translated) **is the model's**: up to five tries, each a group `try`
    that is discarded when the predicate says no, then "failed to find suitable value in 5 tries" -/
theorem tr_filter (fe : Go.FEval) (W : Prog) (p : Val → Bool) (fuel : Nat) (kM : Val → Prog) (hkM : ∀ v t, kM (.cons v t) = .ret v) :
    RunEq (Translated.filteredGen_value fe (fun k' => W >>- k') p (fuel + 6) fun v => .ret v)
      (findLoop (W >>- fun v => .ret (if p v then .cons v .nil else .nil)) (fun r => r != .nil) kM 5) := by
  simp only [Translated.filteredGen_value, tr_find, Translated.filteredGen_maybeValue, ret_ite]
  apply findLoop_congr_map fun v => if p v then .cons v .nil else .nil
  · intro v; cases p v <;> rfl
  · intro v hv
    cases hp : p v with
    | true => simp only [if_true, hkM]; exact RunEq.refl _
    | false => simp [hp] at hv

/-- `Custom`: `customGen.value` is `find` over `maybeValue` (whatever `maybeValue` does — it is not translated: it creates a
    `T`, defers, recovers): with the model's `maybeValue` in its place the translated function is the model's `.custom` -/
theorem tr_custom (fe : Go.FEval) (M : Prog) (fuel : Nat) (kM : Val → Prog) (hkM : ∀ v t, kM (.cons v t) = .ret v)
    (hkM' : ∀ r, (∀ v t, r ≠ .cons v t) → kM r = .ret .nil) :
    RunEq (Translated.customGen_value fe
        (fun k' => M >>- fun r => if r != .nil then k' (match r with | .cons v _ => v | _ => .nil) true else k' (default : Val) false)
        (fuel + 6) fun v => .ret v)
      (findLoop M (fun r => r != .nil) kM 5) := by
  simp only [Translated.customGen_value, tr_find, ret_ite]
  -- the re-encoding `fT` is read off the goal: written out again, its `match` would be another matcher than the statement's
  refine RunEq.trans (findLoop_congr_map (fun r => r) ?_ ?_ 5) (findLoop_body_congr (bind_ret_runEq M) 5)
  · intro r; cases (r != Val.nil) <;> rfl
  · intro r hr
    cases r with
    | cons v t => simp only [hkM]; exact RunEq.refl _
    | nil => exact absurd hr (by decide)
    | _ => rw [hkM' _ (by intro v t h; cases h)]; exact RunEq.refl _

/-- `Map`: draw from the inner generator, apply the function — as programs -/
theorem tr_map (fe : Go.FEval) (W : Prog) (f : Val → Val) (fuel : Nat) :
    Translated.mappedGen_value fe (fun k' => W >>- k') f fuel (fun v => .ret v) = (W >>- fun v => .ret (f v)) := rfl

/-- **`Generator.value` of /repo is the model's `wrapValue`**: the draw of every generator sits in a standalone group
    labelled with the generator's `String()` (or "" as long as nobody asked for it), never discarded -/
theorem tr_generator_value (fe : FEval) (W : Prog) (str : Option String) (fuel : Nat) (k : Val → Prog) :
    RunEq (Translated.Generator_value fe (fun k' => W >>- k') str fuel k) ((wrapValue (str.getD "") W) >>- k) := by
  simp only [Translated.Generator_value, wrapValue, Prog.bind]
  cases str <;>
  exact group_body_congr (bind_ret_runEq W) (fun v => RunEq.refl _)

end Rapid
