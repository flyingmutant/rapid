/-
  C18 — generators can reach every allowed value, hit the edges, use fresh seeds.
  Reachability: the measured geometric tables (regenerated from the real `genGeom` on every run)
  have distinct break points — checked by kernel evaluation over all 65 tables — and therefore
  every value of every unsigned range is produced by some two-word bit stream.
-/
import RapidProofs.MeasuredTables
import RapidProofs.ReachFloat
import RapidProofs.TranslatedFloatEq

namespace Rapid.C18

/-- the coin at p = 0.5 is fair on 53-bit words: exactly half of them are "true" -/
theorem coin_half_is_fair : Rapid.Generated.coinHalf = 2 ^ 52 := rfl

/-- "never" is unreachable for a 53-bit word, "always" is every word -/
theorem coin_extremes : Rapid.Generated.coinNever = 2 ^ 53 ∧ Rapid.Generated.coinAlways = 0 := ⟨rfl, rfl⟩

/-- within one run the seeds of the test cases are pairwise different for the first 2³² cases:
    `tri` is strictly increasing (the statement) and stays below 2⁶⁴ there -/
theorem tri_strict (a b : Nat) (h : a < b) : a * (a + 1) / 2 < b * (b + 1) / 2 := by
  have h2 : (a + 1) * (a + 1 + 1) ≤ b * (b + 1) := Nat.mul_le_mul h (Nat.succ_le_succ h)
  rw [Nat.succ_mul, Nat.mul_succ] at h2
  omega

/-- the 65 tables measured on the real code hold more than `b` and at most 65 break points each, positive 53-bit words
    in strictly ascending order (evaluated in the kernel: 65 comparisons per table) -/
theorem measured_tables_ascending : tablesOK Rapid.Generated.ft = true := measured_tablesOK

/-- the table condition on the tables measured on the real code: for every bit length `b ≤ 64`
    every geometric draw `1 … b` is hit by some 53-bit bias word: the break point before it -/
theorem measured_tables_reach : allReach Rapid.Generated.ft = true :=
  allReach_of_tablesOK _ measured_tables_ascending

/-- **every value of `[0, max]` is reachable** by `genUintNBiased` with the measured tables: no
    unreachable band (the defect D5 of the pinned tree made `[2^63, 2^64-2]` unreachable) -/
theorem every_uint_reachable (max u : UInt64) (hu : u ≤ max) (fuel : Nat) :
    ∃ w : UInt64, ∀ (k : UInt64 → Bool → Bool → Prog) (rest : List UInt64) (ts : TS),
      ∃ l r toks, (uintBiased Rapid.Generated.ft max (fuel + 1) k).run (.buf (w :: u :: rest)) ts =
        ((k u l r).run (.buf rest) ts).after [w, u] [w, u] toks [] false :=
  uintBiased_reaches_all _ measured_tables_reach max u hu fuel

/-- every value of every unsigned range `[min, max]` (Uint*, Byte, *Range, *Min, *Max, lengths,
    indices) is reachable -/
theorem every_range_value_reachable (min max v : UInt64) (h1 : min ≤ v) (h2 : v ≤ max) (fuel : Nat) :
    ∃ w : UInt64, ∀ (k : UInt64 → Bool → Bool → Prog) (rest : List UInt64) (ts : TS),
      ∃ l r toks, (uintRange Rapid.Generated.ft min max true (fuel + 1) k).run (.buf (w :: (v - min) :: rest)) ts =
        ((k v l r).run (.buf rest) ts).after [w, v - min] [w, v - min] toks [] false :=
  uintRange_reaches_all _ measured_tables_reach min max v h1 h2 fuel

/-- in particular the edges: minimum and maximum of any range -/
theorem edges_reachable (min max : UInt64) (h : min ≤ max) (fuel : Nat) :
    (∃ w : UInt64, ∀ k rest ts, ∃ l r toks, (uintRange Rapid.Generated.ft min max true (fuel + 1) k).run (.buf (w :: (min - min) :: rest)) ts =
        ((k min l r).run (.buf rest) ts).after [w, min - min] [w, min - min] toks [] false) ∧
    (∃ w : UInt64, ∀ k rest ts, ∃ l r toks, (uintRange Rapid.Generated.ft min max true (fuel + 1) k).run (.buf (w :: (max - min) :: rest)) ts =
        ((k max l r).run (.buf rest) ts).after [w, max - min] [w, max - min] toks [] false) :=
  ⟨every_range_value_reachable min max min (UInt64.le_refl _) h fuel,
   every_range_value_reachable min max max h (UInt64.le_refl _) fuel⟩

/-- the table condition for the exponent draw: for every bit length `b ≤ 12` the geometric draw
    `b + 2` is hit by a 53-bit bias word -/
theorem measured_tables_small_reach : smallReach Rapid.Generated.ft = true :=
  smallReach_of_tablesOK _ measured_tables_ascending

/-- both outcomes of the fair coin are produced by 53-bit words -/
theorem coin_half_usable : 0 < Rapid.Generated.ft.coinHalf ∧ Rapid.Generated.ft.coinHalf < thrNever := by decide

/-- **every value of a small signed range** `[a, b]` (fewer than 2^12 values, bounds within ±2^40)
    is handed on by `genIntRange`, with neither overflow flag raised -/
theorem every_small_int_reachable (a b c : Int) (hac : a ≤ c) (hcb : c ≤ b) (hsm : -2 ^ 40 ≤ a ∧ b ≤ 2 ^ 40)
    (hw : b - a < 4096) (fuel : Nat) :
    ReachesVal (fun (k : Int64 × Bool × Bool → Prog) =>
      intRange Rapid.Generated.ft (Int64.ofInt a) (Int64.ofInt b) (fuel + 1) (fun i l r => k (i, l, r))) (Int64.ofInt c, false, false) :=
  intRange_small_reaches _ measured_tables_small_reach coin_half_usable a b c hac hcb hsm hw fuel

/-- **every float64 the range allows is produced by some bit stream**: all non-NaN bounds
    `min ≤ max` (±0, subnormals, ±Inf included), every bit pattern `t` in `[min, max]` with the sign
    the range admits -/
theorem every_float64_reachable (min max t : UInt64) (hok : floatRangeOK fmt64 min max = true)
    (ht : FloatTarget fmt64 min max t) (fuel : Nat) :
    ReachesVal (floatValue Rapid.Generated.ft fmt64 min max (fuel + 1)) t :=
  floatValue_reaches _ measured_tables_small_reach coin_half_usable fmt64 wf64 (by decide) min max t hok ht fuel

/-- **every float32 likewise** -/
theorem every_float32_reachable (min max t : UInt64) (hok : floatRangeOK fmt32 min max = true)
    (ht : FloatTarget fmt32 min max t) (fuel : Nat) :
    ReachesVal (floatValue Rapid.Generated.ft fmt32 min max (fuel + 1)) t :=
  floatValue_reaches _ measured_tables_small_reach coin_half_usable fmt32 wf32 (by decide) min max t hok ht fuel

/-- the hypotheses are satisfiable — the edges and zero of `[-1.5, 2.5]`, the bounds of
    `[MaxFloat64, +Inf]`, a subnormal of `[0, 1]` (float32): all are targets -/
example :
    FloatTarget fmt64 0xBFF8000000000000 0x4004000000000000 0xBFF8000000000000 ∧
    FloatTarget fmt64 0xBFF8000000000000 0x4004000000000000 0x4004000000000000 ∧
    FloatTarget fmt64 0xBFF8000000000000 0x4004000000000000 0 ∧
    FloatTarget fmt64 0xBFF8000000000000 0x4004000000000000 0x8000000000000000 ∧
    FloatTarget fmt64 0x7FEFFFFFFFFFFFFF 0x7FF0000000000000 0x7FF0000000000000 ∧
    FloatTarget fmt32 0 0x3F800000 1 := by
  refine ⟨?_, ?_, ?_, ?_, ?_, ?_⟩ <;> (unfold FloatTarget FloatOK; decide)

/-! ### the same, for the source

  `genIntRange` and `genUintRange` as translated from /repo on every run (RapidModel/Generated/Translated.lean)
  have the runs of the model (RapidProofs/TranslatedProgEq.lean), for every float evaluator that agrees
  with the measured thresholds: reachability is a statement about the source. -/

theorem source_every_small_int_reachable (fe : Go.FEval) (H : FloatFacts fe Rapid.Generated.ft)
    (a b c : Int) (hac : a ≤ c) (hcb : c ≤ b) (hsm : -2 ^ 40 ≤ a ∧ b ≤ 2 ^ 40) (hw : b - a < 4096) (fuel : Nat) :
    ReachesVal (fun (k : Int64 × Bool × Bool → Prog) =>
      Translated.genIntRange fe (Int64.ofInt a) (Int64.ofInt b) true (fuel + 1) (fun i l r => k (i, l, r))) (Int64.ofInt c, false, false) :=
  ReachesVal.of_runEq (fun _ => tr_genIntRange fe _ H _ _ _ _ _ (fun _ _ _ => RunEq.refl _))
    (every_small_int_reachable a b c hac hcb hsm hw fuel)

/-- every value of an unsigned range is handed on by the unbiased `genUintRange` of the source -/
theorem source_every_uint_reachable_unbiased (fe : Go.FEval) (H : FloatFacts fe Rapid.Generated.ft)
    (min max v : UInt64) (h1 : min ≤ v) (h2 : v ≤ max) (fuel : Nat) :
    ReachesVal (fun (k : UInt64 × Bool × Bool → Prog) =>
      Translated.genUintRange fe min max false (fuel + 1) (fun u l r => k (u, l, r))) (v, false, false) :=
  ReachesVal.of_runEq (fun _ => tr_genUintRange fe _ H _ _ _ _ _ _ (fun _ _ _ => RunEq.refl _))
    (uintRangeUnbiased_reaches Rapid.Generated.ft min max v h1 h2 fuel)

/-- every float64 the range allows is produced by the source's `float64FromParts(genFloatRange(…))` -/
theorem source_every_float64_reachable (fe : Go.FEval) (H : FloatFacts fe Rapid.Generated.ft) (HB : FloatFactsBits fe Rapid.Generated.ft)
    (min max t : UInt64) (hok : floatRangeOK fmt64 min max = true) (ht : FloatTarget fmt64 min max t) (fuel : Nat) :
    ReachesVal (fun (k : UInt64 → Prog) =>
      Translated.genFloatRange fe min max 52 (fuel + 1) (fun s e si sf => k (Translated.float64FromParts s e si sf))) t :=
  ReachesVal.of_runEq
    (fun k => (sim_float64Value fe _ H HB min max (fuel + 1) hok).runEq k k (fun _ _ h _ _ => h ▸ rfl))
    (every_float64_reachable min max t hok ht fuel)

/-- the hypothesis on the evaluator can be met -/
example : ∃ fe, FloatFacts fe Rapid.Generated.ft ∧ FloatFactsBits fe Rapid.Generated.ft :=
  ⟨_, floatFacts_feOf _ fun _ hb => (tablesOK_spec measured_tables_ascending hb).2.2, floatFactsBits_feOf _⟩

end Rapid.C18
