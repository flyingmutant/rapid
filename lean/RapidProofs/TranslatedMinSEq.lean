/-
  RapidProofs.TranslatedMinSEq — `minimize` and the `minimizer` of shrink.go with a callback that talks to the shrinker
  (the translation in `Go.SM`: `minimizeS`, `minimizer_*S`) agree with the model's `minimizeS` family (RapidModel/Passes.lean)
  against every shrinker, for callbacks that agree; `minimizeBlocks` of the source agrees with the model's pass; the round
  loop of `shrinker.shrink` therefore agrees with `shrinkScript` without further hypotheses (`tr_shrink`).
-/
import RapidProofs.TranslatedPassEq

namespace Rapid
open Rapid.Go

def CondAgree {σ : Type} (o : Oracle σ) (cT : UInt64 → String → SM Bool) (cM : UInt64 → Script Bool) : Prop :=
  ∀ u l s, Agree (fun (a b : Bool) => a = b) (SM.exec o (cT u l) s) ((cM u).exec o s)

section
variable {σ : Type} {o : Oracle σ} {cT : UInt64 → String → SM Bool} {cM : UInt64 → Script Bool}

theorem SM.exec_acceptS_ge {α' : Type} {best u : UInt64} (h : u ≥ best) (l : String) (f : Bool × UInt64 → SM α') (s : σ) :
    SM.exec o (Translated.minimizer_acceptS best cT u l >>= f) s = SM.exec o (f (false, best)) s := by
  rw [Translated.minimizer_acceptS]
  simp only [SM.orElse, SM.bind_assoc, SM.ite_bind, SM.pure_bind, decide_eq_true h, Bool.true_or]
  rfl

variable (hc : CondAgree o cT cM)
include hc

theorem Agree.acceptS_bind {α' β' : Type} {R' : α' → β' → Prop} {s : σ} {best u : UInt64} {l : String}
    {f : Bool × UInt64 → SM α'} {g : UInt64 × Bool → Script β'}
    (hyes : ∀ s', Agree R' (SM.exec o (f (true, u)) s') ((g (u, true)).exec o s'))
    (hno : ∀ s', Agree R' (SM.exec o (f (false, best)) s') ((g (best, false)).exec o s')) :
    Agree R' (SM.exec o (Translated.minimizer_acceptS best cT u l >>= f) s) ((mAccept cM best u >>= g).exec o s) := by
  rw [Translated.minimizer_acceptS, mAccept]
  simp only [SM.orElse, SM.bind_assoc, SM.ite_bind, SM.pure_bind, Script.ite_bind, Script.bind_assoc, ← Bool.decide_or]
  refine Agree.iteP (fun _ => hno s) (fun _ => ?_)
  refine Agree.bindS (hc u l s) fun a b s' hab => ?_
  subst hab
  cases a
  · exact hno s'
  · exact hyes s'

theorem tr_rShiftS_loop : ∀ (fuel n : Nat) (best : UInt64) (s : σ), len64 best ≤ n →
    Agree Eq (SM.exec o (Translated.minimizer_rShiftS_loop1 cT fuel best) s) ((rShiftS cM n best).exec o s) := by
  intro fuel
  induction fuel with
  | zero => intro n best s _; exact Agree.fuel _ _ _
  | succ fuel ih =>
    intro n best s hn
    rw [Translated.minimizer_rShiftS_loop1, go_shr64_one]
    cases n with
    | zero =>
      -- `best = 0`: the model has stopped, the source makes one more call of `accept`, which asks nothing
      obtain rfl : best = 0 := len64_eq_zero (by omega)
      rw [SM.exec_acceptS_ge (UInt64.zero_le)]
      exact Agree.done s rfl
    | succ n =>
      rw [rShiftS]
      exact Agree.acceptS_bind hc (fun s' => ih n (best >>> 1) s' (len64_shr1 hn)) (fun s' => Agree.done s' rfl)

theorem tr_unsetBitsS_loop : ∀ (fuel n : Nat) (best : UInt64) (s : σ), n ≤ 64 →
    Agree (fun (t : Int64 × UInt64) b => t.2 = b)
      (SM.exec o (Translated.minimizer_unsetBitsS_loop1 cT fuel (Int64.ofNat n - 1) best) s) ((unsetBitsS cM n best).exec o s) := by
  intro fuel
  induction fuel with
  | zero => intro n best s _; exact Agree.fuel _ _ _
  | succ fuel ih =>
    intro n best s hn
    cases n with
    | zero =>
      rw [Translated.minimizer_unsetBitsS_loop1, i64_negOne_not_nonneg]
      exact Agree.done s rfl
    | succ n =>
      rw [Translated.minimizer_unsetBitsS_loop1, i64_ofNat_pred, i64_ofNat_nonneg (by omega), if_pos rfl,
        go_shl64_ofNat _ (show n < 64 by omega), unsetBitsS]
      exact Agree.acceptS_bind hc (fun s' => ih n _ s' (by omega)) (fun s' => ih n _ s' (by omega))

theorem tr_sortInnerS (i : Nat) (h : UInt64) (hi : i ≤ 64) :
    ∀ (fuel n j : Nat) (best : UInt64) (s : σ), j ≤ i → i ≤ n + j →
      Agree (fun (t : Int64 × UInt64) b => t.2 = b)
        (SM.exec o (Translated.minimizer_sortBitsS_loop2 h (Int64.ofNat i) cT fuel (Int64.ofNat j) best) s)
        ((sortInnerS cM i h n j best).exec o s) := by
  intro fuel
  induction fuel with
  | zero => intro n j best s _ _; exact Agree.fuel _ _ _
  | succ fuel ih =>
    intro n j best s hji hn
    rw [Translated.minimizer_sortBitsS_loop2, i64_ofNat_lt (by omega) (by omega)]
    cases n with
    | zero => rw [decide_eq_false (by omega), if_neg Bool.false_ne_true]; exact Agree.done s rfl
    | succ n =>
      rw [sortInnerS]
      refine Agree.iteP (fun hjlt => ?_) (fun _ => Agree.done s rfl)
      rw [go_shl64_ofNat _ (show j < 64 by omega), i64_ofNat_succ]
      refine Agree.iteB (fun _ => ?_) (fun _ => ih n (j + 1) best s hjlt (by omega))
      exact Agree.acceptS_bind hc (fun s' => Agree.done s' rfl) (fun s' => ih n (j + 1) _ s' hjlt (by omega))

theorem tr_sortBitsS_loop : ∀ (fuel n : Nat) (best : UInt64) (s : σ), n ≤ 64 →
    Agree (fun (t : Int64 × UInt64) b => t.2 = b)
      (SM.exec o (Translated.minimizer_sortBitsS_loop1 cT fuel (Int64.ofNat n - 1) best) s) ((sortBitsS cM n best).exec o s) := by
  intro fuel
  induction fuel with
  | zero => intro n best s _; exact Agree.fuel _ _ _
  | succ fuel ih =>
    intro n best s hn
    cases n with
    | zero =>
      rw [Translated.minimizer_sortBitsS_loop1, i64_negOne_not_nonneg]
      exact Agree.done s rfl
    | succ n =>
      rw [Translated.minimizer_sortBitsS_loop1, i64_ofNat_pred, i64_ofNat_nonneg (by omega), if_pos rfl,
        go_shl64_ofNat _ (show n < 64 by omega), sortBitsS]
      simp only [SM.bind_assoc, SM.ite_bind, SM.pure_bind]
      refine Agree.iteB (fun _ => ?_) (fun _ => ih n best s (by omega))
      rw [i64_zero_ofNat]
      refine Agree.bindS (tr_sortInnerS hc n _ (by omega) fuel n 0 best s (Nat.zero_le _) (Nat.le_refl _)) fun t b s' htb => ?_
      rw [htb]; exact ih n b s' (by omega)

theorem tr_binLoopS : ∀ (fuel k : Nat) (i j best : UInt64) (s : σ), j.toNat < i.toNat + 2 ^ k →
    Agree (fun (t : UInt64 × UInt64 × UInt64) b => t.2.2 = b)
      (SM.exec o (Translated.minimizer_binSearchS_loop1 cT fuel i j best) s) ((binLoopS cM (k + 1) i j best).exec o s) := by
  intro fuel
  induction fuel with
  | zero => intro k i j best s _; exact Agree.fuel _ _ _
  | succ fuel ih =>
    intro k i j best s hd
    rw [Translated.minimizer_binSearchS_loop1, binLoopS]
    simp only [SM.bind_assoc, SM.ite_bind, SM.pure_bind]
    refine Agree.iteP (fun hlt => ?_) (fun _ => Agree.done s rfl)
    cases k with
    | zero =>
      have := UInt64.lt_iff_toNat_lt.mp hlt
      omega
    | succ k =>
      obtain ⟨hl, hr⟩ := u64_mid_halves hlt hd
      exact Agree.acceptS_bind hc (fun s' => ih k i _ _ s' hl) (fun s' => ih k _ j _ s' hr)

theorem tr_binSearchS (fuel : Nat) (best : UInt64) (s : σ) :
    Agree Eq (SM.exec o (Translated.minimizer_binSearchS best cT fuel) s) ((binSearchS cM best).exec o s) := by
  rw [Translated.minimizer_binSearchS, binSearchS]
  refine Agree.acceptS_bind hc (fun s' => ?_) (fun s' => Agree.done s' rfl)
  exact Agree.map (fun t : UInt64 × UInt64 × UInt64 => t.2.2)
    (tr_binLoopS hc fuel 64 0 (best - 1) (best - 1) s' (by simpa using (best - 1).toNat_lt)) fun _ _ h => h

theorem tr_trySmallS (u : UInt64) : ∀ (fuel n : Nat) (i : UInt64) (s : σ), i.toNat + n = 5 →
    Agree (fun (t : UInt64 × Option UInt64) b => t.2 = b)
      (SM.exec o (Translated.minimizeS_loop1 cT u fuel i) s) ((trySmallS cM u n i).exec o s) := by
  intro fuel
  induction fuel with
  | zero => intro n i s _; exact Agree.fuel _ _ _
  | succ fuel ih =>
    intro n i s h5
    rw [Translated.minimizeS_loop1, ← Bool.decide_and]
    simp only [SM.bind_assoc, SM.pure_bind]
    cases n with
    | zero =>
      have hcnd : ¬ (i < u ∧ i < 5) := fun h => by have : i.toNat < 5 := UInt64.lt_iff_toNat_lt.mp h.2; omega
      rw [decide_eq_false hcnd, if_neg Bool.false_ne_true]; exact Agree.done s rfl
    | succ n =>
      rw [trySmallS]
      refine Agree.iteP (p := i < u ∧ i < small) (fun hcnd => ?_) (fun _ => Agree.done s rfl)
      refine Agree.bindS (hc i _ s) fun a b s' hab => ?_
      subst hab
      have h1 := u64_succ_toNat hcnd.2
      exact Agree.iteB (fun _ => Agree.done s' rfl) (fun _ => ih n (i + 1) s' (by omega))

end

/-- **`minimize(u, cond)` of /repo with a callback that talks to the shrinker agrees with the model's `minimizeS`** -/
theorem tr_minimizeS {σ : Type} (o : Oracle σ) {cT : UInt64 → String → SM Bool} {cM : UInt64 → Script Bool} (hc : CondAgree o cT cM)
    (fuel : Nat) (u : UInt64) (s : σ) :
    Agree (fun (a b : UInt64) => a = b) (SM.exec o (Translated.minimizeS u cT fuel) s) ((minimizeS u cM).exec o s) := by
  rw [Translated.minimizeS, minimizeS]
  refine Agree.iteB (fun _ => Agree.done s rfl) (fun _ => ?_)
  refine Agree.bindS (tr_trySmallS hc u fuel 5 0 s rfl) fun t b s1 htb => ?_
  rw [htb]
  cases b with
  | some i => exact Agree.done s1 rfl
  | none =>
    refine Agree.iteP (p := u ≤ small) (fun _ => Agree.done s1 rfl) (fun _ => ?_)
    simp only [Translated.minimizer_rShiftS, Translated.minimizer_unsetBitsS, Translated.minimizer_sortBitsS, SM.bind_assoc,
      SM.pure_bind]
    refine Agree.bindS (tr_rShiftS_loop hc fuel 64 u s1 (len64_le_64 u)) fun a b s2 hab => ?_; subst hab
    refine Agree.bindS (tr_unsetBitsS_loop hc fuel _ a s2 (len64_le_64 a)) fun t b s3 htb => ?_; subst htb
    refine Agree.bindS (tr_sortBitsS_loop hc fuel _ t.2 s3 (len64_le_64 t.2)) fun t b s4 htb => ?_; subst htb
    exact Agree.map (fun a => a) (tr_binSearchS hc fuel t.2 s4) fun _ _ h => h

theorem tr_minimizeBlocks_loop {σ : Type} {o : Oracle σ} (wf : o.WF) :
    ∀ fuel, LoopAgree o Translated.shrinker_minimizeBlocks_loop1 minimizeBlocks fuel := by
  refine LoopAgree.all (fun _ => rfl) fun fuel ih d i s hi => ?_
  rw [Translated.shrinker_minimizeBlocks_loop1, minimizeBlocks]
  simp only [SM.andThen_pure_true, SM.bind_assoc, SM.pure_bind, List.nil_append, i64_ofNat_succ]
  rw [SM.exec_data_lt o s hi (wf.data_lt s), Script.exec_getV_bind]
  refine Agree.iteS (fun hlt => ?_) (fun _ => Agree.done s trivial)
  refine Agree.data_bind (Or.inl (idx_ofNat _ hi)) fun x _ => ?_
  refine Agree.bindS (tr_minimizeS o ?hc fuel x s) fun _ _ s' _ => ih d (i + 1) s' (Nat.lt_of_le_of_lt hlt (wf.data_lt s))
  -- the callback `minimizeBlocks` hands to `minimize`
  intro u l s
  rw [SM.exec_data_bind, Script.exec_getV_bind, glen_eq, i64_ofNat_le (wf.data_lt s) hi]
  refine Agree.iteP (fun _ => Agree.done s rfl) (fun hlt => ?_)
  refine Agree.data_bind (Or.inl (setIdx_const _ hi u)) fun buf _ => ?_
  rw [SM.exec_data_bind, SM.exec_idx_ok o s hi (List.getElem?_eq_getElem (Nat.lt_of_not_le hlt))]
  exact Agree.map (fun r => r) (Agree.accept o buf s) fun _ _ h => h

theorem tr_minimizeBlocks {σ : Type} (o : Oracle σ) (wf : o.WF) : MinimizeBlocksAgree o :=
  fun _ _ s h => tr_pass (tr_minimizeBlocks_loop wf) 0 (by decide) h s

/-- **`shrinker.shrink` (its round loop with all passes) of /repo agrees with the model's `shrinkScript`** against every
    shrinker `o` whose states are well-formed: with `fuel ≤ F` the translated code asks `accept` the same questions in the
    same order and ends in the same state as the model — or runs out of fuel first (a deadline cut) -/
theorem tr_shrink {σ : Type} (o : Oracle σ) (wf : o.WF) (hsh : ∀ s, (o.view s).shrinks < 2 ^ 62) (F fuel : Nat) (h : fuel ≤ F) (s : σ) :
    Agree (fun _ _ => True) (SM.exec o (Translated.shrinker_shrink fuel) s) ((shrinkScript F).exec o s) :=
  -- `( … :)`: `tr_rounds …` is elaborated before its type meets the goal.  Given `shrinker_shrink fuel` and `shrinkScript F` as
  -- expected type while `0`, `-1` and the `?x` of `Agree.map` are still open, it is an order of magnitude dearer to check.
  Agree.map (fun _ => ()) (tr_rounds o wf hsh (tr_minimizeBlocks o wf) F fuel F 0 (-1) s h h (by omega) (by omega) :) fun _ _ _ => trivial

end Rapid
