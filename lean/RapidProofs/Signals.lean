/-
  RapidProofs.Signals — a non-fatal failure signal is never lost: `failed` is sticky through
  every construct (body, Custom's inner `*T`, cleanup callbacks), and `checkOnce` turns a
  pending failure into the test case's error.
-/
import RapidProofs.Cleanups
import RapidProofs.Once
import RapidProofs.Runs

namespace Rapid

/- the numbering of the cases of `CTree.run` and `runStack` is given in Cleanups.lean -/

/-- `failed` is sticky from `ts` across the events `evs` to `ts'`: a failure pending before, or signalled in between, is pending after -/
def Sticky (ts : TS) (evs : List Ev) (ts' : TS) : Prop := ts.failed.isSome ∨ Ev.signal ∈ evs → ts'.failed.isSome

theorem Sticky.trans {a b c : TS} {e1 e2 : List Ev} (h1 : Sticky a e1 b) (h2 : Sticky b e2 c) : Sticky a (e1 ++ e2) c := by
  rw [Sticky, List.mem_append, ← or_assoc]
  exact fun h => h2 (h.imp_left h1)

theorem ctree_signal (c : CTree) (ts : TS) : Sticky ts (c.run ts).evs (c.run ts).ts := by
  fun_induction CTree.run c ts with
  | case1 | case4 => simp [Sticky]
  | case2 _ _ _ _ ih | case6 _ _ _ ih => simpa [Sticky] using ih
  | case3 _ _ _ _ ih => exact fun _ => ih (.inl rfl)
  | case5 _ _ _ ih => exact ih

theorem runStack_signal (fuel : Nat) (ts : TS) : Sticky ts (runStack fuel ts).evs (runStack fuel ts).ts := by
  fun_induction runStack fuel ts with
  | case1 | case2 => simp [Sticky]
  | case3 _ ts c rest _ _ _ ih => exact (ctree_signal c { ts with cleanups := rest }).trans ih

theorem cleanupPhase_signal (ts : TS) : Sticky ts (cleanupPhase ts).evs (cleanupPhase ts).ts := by
  rw [cleanupPhase_eq]
  refine fun h => runStack_signal _ _ (h.imp_right fun h => ?_)
  cases hc : ts.ctx <;> simpa [hc] using h

theorem TStep.signal {ts ts' : TS} {evs : List Ev} (h : TStep ts evs ts') : Sticky ts evs ts' := by
  cases h <;> simp [Sticky]

theorem innerTS_signal (ts : TS) {o : Out} (ho : Ev.signal ∈ o.evs → o.ts.failed.isSome) :
    Sticky ts (innerEvs o) (innerTS ts o) := by
  intro h
  have hc : ts.failed.isSome ∨ (cleanupPhase o.ts).ts.failed.isSome := h.imp_right fun h => by
    simp only [innerEvs, List.cons_append, List.mem_cons, List.mem_append, reduceCtorEq, false_or, List.not_mem_nil,
      or_false] at h
    exact cleanupPhase_signal _ (h.imp_left ho)
  unfold innerTS
  cases hcf : (cleanupPhase o.ts).ts.failed with
  | some m => rfl
  | none => exact hc.resolve_right (hcf ▸ nofun)

theorem Runs.signal {src : Src} {ts : TS} {o : Out} (h : Runs src ts o) : Sticky ts o.evs o.ts := by
  induction h with
  | leaf | overrun => simp [Sticky, Out.ofRes]
  | draw _ _ ih | groupAbort _ _ _ _ ih => simpa [Sticky] using ih
  | step hs _ ih => exact hs.signal.trans ih
  | groupDone _ _ _ _ _ _ ih ih2 | seq _ _ ih ih2 => exact ih.trans ih2
  | innerStop ts _ _ ih => exact innerTS_signal ts (fun h => ih (.inr h))
  | innerDone _ _ ih ih2 => exact (innerTS_signal _ (fun h => ih (.inr h))).trans ih2

theorem run_signal (p : Prog) (src : Src) (ts : TS) : Sticky ts (p.run src ts).evs (p.run src ts).ts :=
  (p.runs src ts).signal

/-- **no non-fatal signal is lost**: if `T.Error/Errorf/Fail` (or `Fatal*`) was called anywhere
    during a test case — in the body, in a `Repeat` action or invariant, in a Custom function
    (inner `*T`), in a cleanup callback of either — or a failure was still pending on the `*T`,
    the test case ends with an error that is not "invalid" -/
theorem checkOnce_signal (p : Prog) (src : Src) (ts : TS)
    (h : ts.failed.isSome ∨ Ev.signal ∈ (checkOnce p src ts).evs) :
    ∃ e, (checkOnce p src ts).err = some e ∧ e.isInvalid = false := by
  rw [checkOnce_err]
  refine pendingErr_fails (.inl (cleanupPhase_signal _ ?_))
  rcases h with h | h
  · exact .inl (run_signal _ _ _ (.inl h))
  · exact (List.mem_append.mp h).imp_left fun h => run_signal _ _ _ (.inr h)

/-- a panic / `Fatal*` that ends the body falsifies the test case, whatever the cleanup callbacks do
    afterwards: a callback that fails replaces the error by its own failure, a callback that skips
    (invalid data) cannot replace it -/
theorem checkOnce_body_error (p : Prog) (src : Src) (ts : TS) (e : Err)
    (hb : ((bodyOf p).run src { ts with ctxCount := 0 }).res = .error e) (he : e.isInvalid = false) :
    ∃ e', (checkOnce p src ts).err = some e' ∧ e'.isInvalid = false := by
  rw [checkOnce_err]
  exact pendingErr_fails (.inr (hb ▸ runPropErr_fails he ..))

theorem verdict_pass {checks : Nat} {d : DC} {v : Nat} (h : verdict checks d = .pass v) :
    d.err1 = none ∧ d.err2 = none ∧ v = d.valid ∧ (d.valid = checks ∨ (d.early = true ∧ d.valid > 0)) := by
  unfold verdict at h
  split at h
  · next h1 h2 =>
    split at h
    · next hc => cases h; exact ⟨h1, h2, rfl, hc⟩
    · cases h
  · split at h
    · split at h <;> cases h
    · cases h

/-- a falsified test case fails the enclosing test: whenever the generation loop ends with an
    error, the verdict is not "pass" (so `checkTB` calls `Errorf` and then `FailNow`) -/
theorem failing_case_fails_tb (p : Prog) (checks : Nat) (seed : UInt64) (files : List FF)
    (early : Nat → Bool) (cands : List (List UInt64))
    (h : (doCheck p checks seed files early cands).err1.isSome ∨ (doCheck p checks seed files early cands).err2.isSome) :
    (verdict checks (doCheck p checks seed files early cands)).failsTB = true := by
  cases hv : verdict checks (doCheck p checks seed files early cands) with
  | pass v =>
    obtain ⟨h1, h2, _⟩ := verdict_pass hv
    simp [h1, h2] at h
  | _ => rfl

end Rapid
