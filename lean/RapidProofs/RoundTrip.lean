/-
  RapidProofs.RoundTrip — the fail-file format: `loadFailFile` reads back exactly what `saveFailFile` wrote — version, seed and
  every word — whatever the captured test output was (any bytes, empty, lines of any length, with or without a final newline,
  with '\r', '#', …).  The saved file is the join of its lines (`saveBytes_eq`), so splitting gives them back; a line of the
  captured output stays behind its '#', whatever it holds; the header and the words begin with a plain character and end with a
  digit, so `TrimSpace` and the '\r' rule leave them as they are (`DataLine`); and parsing a number follows its digits.
-/
import RapidModel.Persist

namespace Rapid

theorem digitVal_hexDigit : ∀ d : Fin 16, digitVal (hexDigit d.val) = some d.val ∧ (hexDigit d.val == 95) = false := by decide

theorem natDigits_unfold (base : Nat) (hb : 2 ≤ base) (n : Nat) :
    natDigits base hb n = if n < base then [hexDigit n] else natDigits base hb (n / base) ++ [hexDigit (n % base)] := by
  rw [natDigits]
  split <;> rfl

theorem parseDigits_digit {base : Nat} (hb16 : base ≤ 16) (base0 : Bool) {d acc : Nat} (hd : d < base)
    (hlt : acc * base + d < 2 ^ 64) (rest : Bytes) (us : Bool) :
    parseDigits base base0 (hexDigit d :: rest) acc us = parseDigits base base0 rest (acc * base + d) us := by
  obtain ⟨h1, h2⟩ := digitVal_hexDigit ⟨d, by omega⟩
  simp only at h1 h2
  simp [parseDigits, h1, h2, Nat.not_le.mpr hd, Nat.not_le.mpr hlt]

/-- the tail `rest` is what lets the induction follow `natDigits`, which puts the last digit at the end -/
theorem parseDigits_natDigits_append (base : Nat) (hb : 2 ≤ base) (hb16 : base ≤ 16) (base0 : Bool) :
    ∀ n, n < 2 ^ 64 → ∀ rest, parseDigits base base0 (natDigits base hb n ++ rest) 0 false = parseDigits base base0 rest n false := by
  intro n
  induction n using Nat.strongRecOn with
  | _ n ih =>
    intro hn rest
    rw [natDigits_unfold]
    split
    · rename_i hlt
      simpa using parseDigits_digit hb16 base0 (acc := 0) hlt (by omega) rest false
    · have hdiv : n / base < n := Nat.div_lt_self (by omega) (by omega)
      rw [List.append_assoc, ih (n / base) hdiv (Nat.lt_trans hdiv hn), List.singleton_append,
        parseDigits_digit hb16 base0 (Nat.mod_lt _ (by omega)) (by rw [Nat.div_add_mod']; exact hn), Nat.div_add_mod']

theorem parseDigits_natDigits (base : Nat) (hb : 2 ≤ base) (hb16 : base ≤ 16) (base0 : Bool) (n : Nat) (hn : n < 2 ^ 64) :
    parseDigits base base0 (natDigits base hb n) 0 false = .ok (n, false) := by
  have h := parseDigits_natDigits_append base hb hb16 base0 n hn []
  rwa [List.append_nil] at h

theorem natDigits_ne_nil (base : Nat) (hb : 2 ≤ base) (n : Nat) : natDigits base hb n ≠ [] := by
  fun_cases natDigits base hb n <;> simp

theorem parseUint_fmtDec (u : UInt64) : parseUint (fmtDec u) 10 = .ok u := by
  simp [parseUint, fmtDec, natDigits_ne_nil, parseDigits_natDigits 10 (by decide) (by decide) false u.toNat u.toNat_lt]

theorem parseUint_fmtHex (u : UInt64) : parseUint (fmtHex u) 0 = .ok u := by
  have hx : (lower 120 == 98) = false ∧ (lower 120 == 111) = false ∧ (lower 120 == 120) = true := by decide
  simp [parseUint, fmtHex, natDigits_ne_nil, hx, parseDigits_natDigits 16 (by decide) (by decide) true u.toNat u.toNat_lt]

theorem splitOn_ne_nil (c : UInt8) (bs : Bytes) : splitOn c bs ≠ [] := by
  fun_cases splitOn c bs <;> simp

theorem splitOn_free (c : UInt8) (bs : Bytes) : ∀ s ∈ splitOn c bs, c ∉ s := by
  fun_induction splitOn c bs with
  | case1 => simp
  | case2 b bs hbc ih => exact List.forall_mem_cons.mpr ⟨List.not_mem_nil, ih⟩
  | case3 b bs hbc hnil => exact absurd hnil (splitOn_ne_nil c bs)
  | case4 b bs hbc l ls heq ih =>
    have hne : c ≠ b := fun e => hbc (by simp [e])
    obtain ⟨hl, hls⟩ := List.forall_mem_cons.mp (heq ▸ ih)
    exact List.forall_mem_cons.mpr ⟨fun h => (List.mem_cons.mp h).elim hne hl, hls⟩

theorem splitOn_prepend (c : UInt8) {rest hd : Bytes} {tl : List Bytes} (h : splitOn c rest = hd :: tl) : ∀ a : Bytes, c ∉ a →
    splitOn c (a ++ rest) = (a ++ hd) :: tl
  | [], _ => h
  | x :: a, hx => by
    simp [splitOn, splitOn_prepend c h a (List.not_mem_of_not_mem_cons hx), Ne.symm (List.ne_of_not_mem_cons hx)]

theorem joinWith_cons (c : UInt8) (l : Bytes) {ls : List Bytes} (h : ls ≠ []) :
    joinWith c (l :: ls) = l ++ c :: joinWith c ls := by
  cases ls with
  | nil => exact absurd rfl h
  | cons m ms => rfl

theorem splitOn_joinWith (c : UInt8) : ∀ ls : List Bytes, ls ≠ [] → (∀ x ∈ ls, c ∉ x) → splitOn c (joinWith c ls) = ls
  | [l], _, h => by simpa [joinWith] using splitOn_prepend c (rest := []) rfl l (h l List.mem_cons_self)
  | l :: m :: ms, _, h => by
    have ih := splitOn_joinWith c (m :: ms) (List.cons_ne_nil _ _) fun x hx => h x (List.mem_cons_of_mem _ hx)
    have hc : splitOn c (c :: joinWith c (m :: ms)) = [] :: m :: ms := by simp [splitOn, ih]
    rw [joinWith_cons c l (List.cons_ne_nil _ _), splitOn_prepend c hc l (h l List.mem_cons_self), List.append_nil]

theorem joinWith_append (c : UInt8) {bs : List Bytes} (h : bs ≠ []) : ∀ as : List Bytes,
    joinWith c (as ++ bs) = (as.map (· ++ [c])).flatten ++ joinWith c bs
  | [] => rfl
  | a :: as => by
    rw [List.cons_append, joinWith_cons c a (by simp [h]), joinWith_append c h as]
    simp

theorem scanLines_joinWith {ls : List Bytes} (hne : ls ≠ []) (hnl : ∀ l ∈ ls, nl ∉ l) (hlast : ls.getLast? ≠ some []) :
    scanLines (joinWith nl ls) = ls.map dropCR := by
  -- `simp` finds `hlast` among the hypotheses and with it decides the `match` in `scanLines`: no final token is dropped
  simp only [scanLines, splitOn_joinWith nl ls hne hnl]

def Plain (b : UInt8) : Prop := b < 0x80 ∧ isAsciiSpace b = false

theorem uni_high : ∀ p ∈ uniSpaces, p ≠ [] ∧ ∀ x ∈ p, 0x80 ≤ x := by decide

theorem not_plain_of_uni {p : Bytes} (hp : p ∈ uniSpaces) {b : UInt8} (hb : Plain b) : b ∉ p := fun h =>
  absurd ((uni_high p hp).2 b h) (UInt8.not_le.mpr hb.1)

theorem trimLeft_plain {b : UInt8} (hb : Plain b) (t : Bytes) (n : Nat) : trimLeft n (b :: t) = b :: t := by
  have : uniSpaces.find? (fun p => p.isPrefixOf (b :: t)) = none := by
    refine List.find?_eq_none.mpr fun p hp h => ?_
    rcases List.prefix_cons_iff.mp (List.isPrefixOf_iff_prefix.mp h) with rfl | ⟨t', rfl, _⟩
    · exact (uni_high _ hp).1 rfl
    · exact not_plain_of_uni hp hb List.mem_cons_self
  cases n <;> simp only [trimLeft, leadSpaceLen, hb.2, Bool.false_eq_true, if_false, this]

theorem trimRight_plain {l : Bytes} {b : UInt8} (hl : l.getLast? = some b) (hb : Plain b) (n : Nat) : trimRight n l = l := by
  have : uniSpaces.find? (fun p => p.isSuffixOf l) = none := by
    refine List.find?_eq_none.mpr fun p hp h => ?_
    have hs := List.isSuffixOf_iff_suffix.mp h
    have hne := (uni_high p hp).1
    refine not_plain_of_uni hp hb (List.mem_of_getLast? ?_)
    rw [List.getLast?_eq_some_getLast hne, hs.getLast hne, ← List.getLast?_eq_some_getLast, hl]
  cases n <;> simp only [trimRight, trailSpaceLen, hl, hb.2, Bool.false_eq_true, if_false, this]

theorem trimRight_prefix : ∀ (n : Nat) (l : Bytes), trimRight n l <+: l
  | 0, l => List.prefix_refl l
  | n+1, l => by
    simp only [trimRight]
    split
    · exact List.prefix_refl l
    · exact (trimRight_prefix n _).trans (List.take_prefix _ l)

theorem plain_hexDigit : ∀ d : Fin 16, Plain (hexDigit d.val) ∧ hexDigit d.val ≠ hash := by
  unfold Plain; decide

theorem natDigits_plain (base : Nat) (hb : 2 ≤ base) (hb16 : base ≤ 16) : ∀ n, ∀ x ∈ natDigits base hb n, Plain x ∧ x ≠ hash := by
  intro n
  induction n using Nat.strongRecOn with
  | _ n ih =>
    rw [natDigits_unfold]
    split
    · exact List.forall_mem_singleton.mpr (plain_hexDigit ⟨n, by omega⟩)
    · exact List.forall_mem_append.mpr ⟨ih _ (Nat.div_lt_self (by omega) (by omega)),
        List.forall_mem_singleton.mpr (plain_hexDigit ⟨n % base, Nat.lt_of_lt_of_le (Nat.mod_lt n (by omega)) hb16⟩)⟩

theorem plain_ne {b : UInt8} (hb : Plain b) : b ≠ nl ∧ b ≠ 13 := by
  constructor <;> rintro rfl <;> exact absurd hb.2 (by decide)

theorem trimSpace_dropCR_plain {b b' : UInt8} {t : Bytes} (hb : Plain b) (hl : (b :: t).getLast? = some b') (hb' : Plain b') :
    trimSpace (dropCR (b :: t)) = b :: t := by
  have hcr : dropCR (b :: t) = b :: t := by
    simp only [dropCR, hl]
    split
    · rename_i heq
      exact absurd (Option.some.inj heq) (plain_ne hb').2
    · rfl
  rw [hcr, trimSpace, trimLeft_plain hb, trimRight_plain hl hb']

/-- the lines `loadBytes` keeps, once trimmed (an `abbrev`: `loadBytes` spells the test out, and rewriting has to see through the name) -/
abbrev isData (s : Bytes) : Bool := !(s.head? == some hash || s.isEmpty)

/-- a line that `loadBytes` reads as it stands -/
structure DataLine (l : Bytes) : Prop where
  fixed : trimSpace (dropCR l) = l
  kept : isData l = true
  nonl : nl ∉ l

theorem dataLine_digits {b : UInt8} {t : Bytes} (hb : Plain b) (hne : b ≠ hash) (hnl : nl ∉ b :: t)
    (base : Nat) (hb2 : 2 ≤ base) (hb16 : base ≤ 16) (n : Nat) : DataLine (b :: t ++ natDigits base hb2 n) := by
  have hd := natDigits_plain base hb2 hb16 n
  have hne' := natDigits_ne_nil base hb2 n
  refine ⟨trimSpace_dropCR_plain (t := t ++ natDigits base hb2 n) hb ?_ (hd _ (List.getLast_mem hne')).1, by simpa using hne, ?_⟩
  · rw [← List.cons_append, List.getLast?_append, List.getLast?_eq_some_getLast hne']; rfl
  · rw [List.mem_append, not_or]
    exact ⟨hnl, fun h => (plain_ne (hd _ h).1).1 rfl⟩

theorem hexLine (u : UInt64) : DataLine (fmtHex u) :=
  dataLine_digits (t := [120]) ⟨by decide, by decide⟩ (by decide) (by decide) 16 _ (by decide) _

/-- what the version string must be like (true of "v0.4.8" and of every sensible version) -/
structure VersionOK (v : Bytes) : Prop where
  shape : ∃ b t, v = b :: t ∧ Plain b ∧ b ≠ hash
  nohash : hash ∉ v
  nonl : nl ∉ v

theorem headerLine (v : Bytes) (hv : VersionOK v) (seed : UInt64) : DataLine (v ++ [hash] ++ fmtDec seed) := by
  obtain ⟨b, t, rfl, hb, hne⟩ := hv.shape
  have := dataLine_digits (t := t ++ [hash]) hb hne (by simpa [nl, hash] using hv.nonl) 10 (by decide) (by decide) seed.toNat
  simpa [fmtDec] using this

theorem filter_data (ls : List Bytes) (h : ∀ l ∈ ls, DataLine l) : ((ls.map dropCR).map trimSpace).filter isData = ls := by
  induction ls with
  | nil => rfl
  | cons l ls ih =>
    have hl := h l List.mem_cons_self
    simp only [List.map_cons, List.filter_cons, hl.fixed, hl.kept, if_true, ih fun l' hl' => h l' (List.mem_cons_of_mem _ hl')]

/-- `trimRight` leaves a prefix: trimmed, a comment line is empty or still begins with '#' -/
theorem comment_dropped (t : Bytes) : isData (trimSpace (hash :: t)) = false := by
  rw [trimSpace, trimLeft_plain (b := hash) ⟨by decide, by decide⟩]
  rcases List.prefix_cons_iff.mp (trimRight_prefix (hash :: t).length (hash :: t)) with h | ⟨t', h, _⟩ <;> rw [h] <;> rfl

theorem filter_comments (ps : List Bytes) :
    (((ps.map fun s => [hash, sp] ++ s).map dropCR).map trimSpace).filter isData = [] := by
  simp only [List.filter_eq_nil_iff, List.forall_mem_map]
  intro s _
  obtain ⟨t, ht⟩ : ∃ t, dropCR ([hash, sp] ++ s) = hash :: t := by
    unfold dropCR
    split <;> exact ⟨_, rfl⟩
  rw [ht, comment_dropped]
  exact Bool.false_ne_true

theorem words_ok : ∀ (buf : List UInt64), loadBytes.words (buf.map fmtHex) = .ok buf
  | [] => rfl
  | u :: us => by simp [loadBytes.words, parseUint_fmtHex, words_ok us]

def saveLines (v output : Bytes) (seed : UInt64) (buf : List UInt64) : List Bytes :=
  (splitOn nl output).map (fun s => [hash, sp] ++ s) ++ (v ++ [hash] ++ fmtDec seed) :: buf.map fmtHex

theorem saveBytes_eq (v output : Bytes) (seed : UInt64) (buf : List UInt64) :
    saveBytes v output seed buf = joinWith nl (saveLines v output seed buf) := by
  simp [saveBytes, saveLines, joinWith_append, Function.comp_def]

/-- **round trip**: loading what was saved gives back version, seed and words — for any
    captured output whatsoever -/
theorem load_save (v : Bytes) (hv : VersionOK v) (output : Bytes) (seed : UInt64) (buf : List UInt64) :
    loadBytes (saveBytes v output seed buf) = .ok (v, seed, buf) := by
  have hdata : ∀ l ∈ (v ++ [hash] ++ fmtDec seed) :: buf.map fmtHex, DataLine l :=
    List.forall_mem_cons.mpr ⟨headerLine v hv seed, List.forall_mem_map.mpr fun u _ => hexLine u⟩
  have hline : ∀ l ∈ saveLines v output seed buf, nl ∉ l ∧ l ≠ [] :=
    List.forall_mem_append.mpr ⟨List.forall_mem_map.mpr fun s hs =>
        ⟨by simpa [nl, hash, sp] using splitOn_free nl output s hs, List.cons_ne_nil _ _⟩,
      fun l hl => ⟨(hdata l hl).nonl, by rintro rfl; cases (hdata [] hl).kept⟩⟩
  have hscan : scanLines (saveBytes v output seed buf) = (saveLines v output seed buf).map dropCR := by
    rw [saveBytes_eq]
    exact scanLines_joinWith (by simp [saveLines]) (fun l hl => (hline l hl).1) fun h => (hline _ (List.mem_of_getLast? h)).2 rfl
  have hsp : splitOn hash (v ++ [hash] ++ fmtDec seed) = [v, fmtDec seed] := by
    have hd : hash ∉ fmtDec seed := fun h => (natDigits_plain 10 (by decide) (by decide) _ _ h).2 rfl
    rw [List.append_assoc]
    exact splitOn_joinWith hash [v, fmtDec seed] (List.cons_ne_nil _ _)
      (List.forall_mem_cons.mpr ⟨hv.nohash, List.forall_mem_cons.mpr ⟨hd, nofun⟩⟩)
  simp only [loadBytes, hscan, saveLines, List.map_append, List.filter_append, filter_comments, List.nil_append,
    filter_data _ hdata, hsp, parseUint_fmtDec, words_ok]

/-- the UTF-8 bytes of "v0.4.8" (the driver and the harness exchange the version as bytes) -/
def versionBytes : Bytes := [118, 48, 46, 52, 46, 56]

theorem versionOK_current : VersionOK versionBytes := by
  refine ⟨⟨118, [48, 46, 52, 46, 56], rfl, ⟨by decide, by decide⟩, by decide⟩, by decide, by decide⟩

end Rapid
