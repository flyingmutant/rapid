/-
  RapidProofs.TranslatedPersistEq — persist.go, the content of a fail file: the part of `saveFailFile` that writes and the part
  of `loadFailFile` that parses, as translated from /repo on every run (RapidModel/Generated/Translated.lean, bytes mode: strings
  are byte lists, the library calls are the model's ports), are the model's `saveBytes` and `loadBytes` (RapidModel/Persist.lean).
-/
import RapidModel.Generated.Translated
import RapidProofs.GoLemmas
import RapidProofs.RoundTrip

namespace Rapid
open Rapid.Go

theorem fmtHex_eq (u : UInt64) : ([48, 120] : List UInt8) ++ hexDigits u = fmtHex u := rfl

/-- `for _, s := range out` of `saveFailFile`: the captured output, one `# ` line each (in bytes mode `f.WriteString` appends and does not fail) -/
theorem tr_saveLoop1 (out : List Bytes) (hl : out.length < 2 ^ 62) (fuel : Nat) (hf : out.length < fuel) (w : Bytes) :
    Translated.saveFailFile_bytes_loop1 false (Go.glen out) out fuel w (Int64.ofNat 0) =
      .ok ((w ++ (out.map fun s => [hash, sp] ++ s ++ [nl]).flatten, Go.glen out), none) := by
  refine range_loop out (by omega) (Translated.saveFailFile_bytes_loop1 false (Go.glen out) out)
    (fun _ rest w r => r = .ok ((w ++ (rest.map fun s => [hash, sp] ++ s ++ [nl]).flatten, Go.glen out), none)) ?_ ?_ fuel 0 w
    (Nat.zero_le _) hf
  · intro hge fuel w
    simp only [Translated.saveFailFile_bytes_loop1, hge, Bool.false_eq_true, if_false, M.pure_eq, List.map_nil, List.flatten_nil,
      List.append_nil]; rfl
  · intro j h hlt hidx fuel w
    refine Or.inr ⟨w ++ ([hash, sp] ++ out[j] ++ [nl]), ?_, fun r hr => by rw [hr, List.map_cons, List.flatten_cons, List.append_assoc]⟩
    simp only [Translated.saveFailFile_bytes_loop1, hlt, if_true, hidx, M.ok_bind, Bool.false_eq_true, if_false, i64_ofNat_succ,
      hash, sp, nl]

/-- `for _, u := range buf` of `saveFailFile`: the words in hex, appended to the version/seed line -/
theorem tr_saveLoop2 (buf : List UInt64) (hl : buf.length < 2 ^ 62) (fuel : Nat) (hf : buf.length < fuel) (bs : List Bytes) :
    Translated.saveFailFile_bytes_loop2 buf (Go.glen buf) fuel bs (Int64.ofNat 0) = .ok (bs ++ buf.map fmtHex, Go.glen buf) := by
  refine range_loop buf (by omega) (Translated.saveFailFile_bytes_loop2 buf (Go.glen buf))
    (fun _ rest bs r => r = .ok (bs ++ rest.map fmtHex, Go.glen buf)) ?_ ?_ fuel 0 bs (Nat.zero_le _) hf
  · intro hge fuel bs
    simp only [Translated.saveFailFile_bytes_loop2, hge, Bool.false_eq_true, if_false, M.pure_eq, List.map_nil, List.append_nil]; rfl
  · intro j h hlt hidx fuel bs
    refine Or.inr ⟨bs ++ [fmtHex buf[j]], ?_, fun r hr => by rw [hr, List.map_cons, List.append_assoc]; rfl⟩
    simp only [Translated.saveFailFile_bytes_loop2, hlt, if_true, hidx, M.ok_bind, i64_ofNat_succ, fmtHex_eq]

theorem splitOn_length_le (c : UInt8) (bs : Bytes) : (splitOn c bs).length ≤ bs.length + 1 := by
  fun_induction splitOn c bs with
  | case1 => exact Nat.le_refl 1
  | case2 b bs _ ih => exact Nat.succ_le_succ ih
  | case3 b bs _ _ => exact Nat.le_add_left 1 _
  | case4 b bs _ l ls heq ih => rw [heq] at ih; exact Nat.le_succ_of_le ih

/-- **what `saveFailFile` of /repo writes is the model's `saveBytes`** (and it reports no error of its own) -/
theorem tr_saveFailFile (version output : Bytes) (seed : UInt64) (buf : List UInt64) (fuel : Nat)
    (ho : output.length < 2 ^ 61) (hb : buf.length < 2 ^ 62) (hf1 : output.length + 1 < fuel) (hf2 : buf.length < fuel) :
    Translated.saveFailFile_bytes version output seed buf fuel = .ok (saveBytes version output seed buf, false) := by
  have hsl := splitOn_length_le 10 output
  have h1 := tr_saveLoop1 (splitOn 10 output) (by omega) fuel (by omega) []
  have h2 := tr_saveLoop2 buf hb fuel hf2 [version ++ [35] ++ fmtDec seed]
  simp only [Translated.saveFailFile_bytes, i64_zero_ofNat, h1, h2, M.ok_bind, Bool.false_eq_true, if_false, M.pure_eq,
    List.nil_append]
  rfl

theorem skipped_eq : ∀ s : Bytes, (Go.hasPrefix s [35] || s == []) = !isData s
  | [] => rfl
  | b :: bs => by simp [Go.hasPrefix, List.isPrefixOf, hash, BEq.comm (a := (35 : UInt8))]

/-- `for scanner.Scan()` of `loadFailFile`: trim, drop comments and empty lines -/
theorem tr_loadLoop1 (lines : List Bytes) (hl : lines.length < 2 ^ 62) (fuel : Nat) (hf : lines.length < fuel) :
    Translated.loadFailFile_bytes_loop1 lines (Go.glen lines) fuel [] (Int64.ofNat 0) =
      .ok ((lines.map trimSpace).filter isData, Go.glen lines) := by
  refine range_loop lines (by omega) (Translated.loadFailFile_bytes_loop1 lines (Go.glen lines))
    (fun _ rest data r => r = .ok (data ++ (rest.map trimSpace).filter isData, Go.glen lines))
    ?_ ?_ fuel 0 [] (Nat.zero_le _) hf
  · intro hge fuel data
    simp [Translated.loadFailFile_bytes_loop1, hge]; rfl
  · intro j h hlt hidx fuel data
    simp only [Translated.loadFailFile_bytes_loop1, hlt, if_true, hidx, M.ok_bind, i64_ofNat_succ, skipped_eq, List.map_cons,
      List.filter_cons]
    cases isData (trimSpace lines[j]) <;> exact Or.inr ⟨_, rfl, fun r e => by simp [e]⟩

/-- `for _, b := range data[1:]` of `loadFailFile`: parse the words; the first that does not parse is an early return -/
theorem tr_loadLoop2 (rng : List Bytes) (hl : rng.length < 2 ^ 62) (fuel : Nat) (hf : rng.length < fuel) (e0 : Bool) :
    ∃ st, Translated.loadFailFile_bytes_loop2 e0 (Go.glen rng) rng fuel [] (Int64.ofNat 0) =
        .ok (st, match loadBytes.words rng with
          | .ok _ => none
          | .error _ => some ([], 0, [], true)) ∧
      ∀ us, loadBytes.words rng = .ok us → st.1 = us := by
  have := range_loop rng (by omega) (fun fuel (s : Bool × List UInt64) j => Translated.loadFailFile_bytes_loop2 s.1 (Go.glen rng) rng fuel s.2 j)
    (fun _ rest s r => ∃ st, r = .ok (st, match loadBytes.words rest with
          | .ok _ => none
          | .error _ => some ([], 0, [], true)) ∧
      ∀ us, loadBytes.words rest = .ok us → st.1 = s.2 ++ us) ?_ ?_ fuel 0 (e0, []) (Nat.zero_le _) hf
  · simp only [List.drop_zero, List.nil_append] at this; exact this
  · intro hge fuel s
    refine ⟨(s.2, Go.glen rng), ?_, fun us h => by cases h; exact (List.append_nil _).symm⟩
    simp only [Translated.loadFailFile_bytes_loop2, hge, Bool.false_eq_true, if_false, M.pure_eq, loadBytes.words]; rfl
  · intro j h hlt hidx fuel s
    simp only [Translated.loadFailFile_bytes_loop2, hlt, if_true, hidx, M.ok_bind, i64_ofNat_succ, loadBytes.words]
    cases parseUint rng[j] 0 with
    | error e => exact Or.inl ⟨_, rfl, by intro us h; cases h⟩
    | ok u =>
      refine Or.inr ⟨(false, s.2 ++ [u]), rfl, ?_⟩
      rintro r ⟨st, rfl, h2⟩
      cases hw : loadBytes.words (rng.drop (j + 1)) with
      | error e => exact ⟨st, rfl, by intro us h; cases h⟩
      | ok us' => exact ⟨st, rfl, by intro us h; cases h; rw [h2 us' hw, List.append_assoc]; rfl⟩

/-- what the source's `loadFailFile` returns for the model's result -/
def loadT (r : Except LoadErr (Bytes × UInt64 × List UInt64)) : List UInt8 × UInt64 × List UInt64 × Bool :=
  match r with
  | .ok (v, sd, buf) => (v, sd, buf, false)
  | .error _ => ([], 0, [], true)

/-- **`loadFailFile` of /repo, from the lines of the file on, is the model's `loadBytes`** -/
theorem tr_loadFailFile (bs : Bytes) (fuel : Nat) (hl : (scanLines bs).length < 2 ^ 61) (hf : (scanLines bs).length + 1 < fuel)
    (hlines : ∀ l ∈ scanLines bs, (trimSpace l).length < 2 ^ 61) :
    Translated.loadFailFile_bytes (scanLines bs) fuel = .ok (loadT (loadBytes bs)) := by
  have h1 := tr_loadLoop1 (scanLines bs) (by omega) fuel (by omega)
  rw [Translated.loadFailFile_bytes, loadBytes]
  dsimp only
  rw [i64_zero_ofNat, h1, M.ok_bind]
  dsimp only
  -- the data lines are no more and no longer than the lines
  have hdl := Nat.le_trans (List.length_filter_le isData ((scanLines bs).map trimSpace)) (Nat.le_of_eq (List.length_map _))
  have hlen : ∀ s ∈ ((scanLines bs).map trimSpace).filter isData, s.length < 2 ^ 61 := fun s hs => by
    obtain ⟨l, hl, rfl⟩ := List.mem_map.mp (List.mem_filter.mp hs).1
    exact hlines l hl
  generalize ((scanLines bs).map trimSpace).filter isData = data at hdl hlen ⊢
  cases data with
  | nil => rfl
  | cons hd rest =>
    dsimp only
    rw [List.length_cons] at hdl
    have hsl := Nat.le_trans (splitOn_length_le 35 hd) (hlen hd List.mem_cons_self)
    have h0 : (glen (hd :: rest) == Int64.ofNat 0) = false := glen_cons_beq_zero hd (by omega)
    have h2 : (glen (splitOn 35 hd) != (2 : Int64)) = !decide ((splitOn hash hd).length = 2) := by
      rw [show (2 : Int64) = Int64.ofNat 2 from rfl, bne, glen_eq, i64_ofNat_beq (by omega) (by omega)]; rfl
    rw [h0, if_neg Bool.false_ne_true, show Go.idx (hd :: rest) (Int64.ofNat 0) = .ok hd from rfl, M.ok_bind, h2,
      show splitOn 35 hd = splitOn hash hd from rfl]
    -- the header line: `version#seed`
    match hsp : splitOn hash hd with
    | [] => rfl
    | [a] => rfl
    | a :: b :: c :: r => rfl
    | [v, sd] =>
      dsimp only
      rw [if_neg (show ¬ (!decide ([v, sd].length = 2)) = true from Bool.false_ne_true), show Go.idx [v, sd] 1 = .ok sd from rfl, M.ok_bind]
      cases hps : parseUint sd 10 with
      | error e => rfl
      | ok seed =>
        obtain ⟨st, hl2, hus⟩ := tr_loadLoop2 rest (by omega) fuel (by omega) false
        dsimp only
        rw [if_neg (show ¬ Go.parsedError (.ok seed) = true from Bool.false_ne_true), sliceFrom_cons_one,
          M.ok_bind, show Go.parsedError (.ok seed) = false from rfl, hl2, M.ok_bind]
        cases hw : loadBytes.words rest with
        | error e => rfl
        | ok us => rw [hus us hw]; rfl

end Rapid
