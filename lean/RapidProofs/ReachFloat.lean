/-
  RapidProofs.ReachFloat — every float a range allows is produced by some bit stream
  (`Float32Range`/`Float64Range`), and so is every value of a small signed integer range (the
  exponent draw).  The words: sign coin; for the exponent a sign coin, a bias word whose geometric
  draw exceeds the bit length of the exponent range (so that neither overflow flag is raised) and
  the offset; the integer significand; `maxR` (no low bit is cleared); the fractional significand.
-/
import RapidProofs.ReachComp
import RapidProofs.ContractsFloat

namespace Rapid

/-- for bit length `b` the geometric draw `b + 2` is hit by a 53-bit bias word -/
def tableReach2 (tbl : List UInt64) (b : Nat) : Bool :=
  geomN tbl (geomWitness tbl (b + 2)) == b + 2 && decide (geomWitness tbl (b + 2) < thrNever)

/-- … for every bit length up to 12 (exponent ranges have at most 2^11 values) -/
def smallReach (ft : FT) : Bool := (List.range 13).all fun b => tableReach2 (ft.geom b) b

theorem smallReach_spec (ft : FT) (h : smallReach ft = true) (b : Nat) (hb : b ≤ 12) :
    ∃ w, w < thrNever ∧ geomN (ft.geom b) w = b + 2 := by
  simp only [smallReach, List.all_eq_true, List.mem_range] at h
  have := h b (by omega)
  simp only [tableReach2, Bool.and_eq_true, beq_iff_eq, decide_eq_true_eq] at this
  exact ⟨_, this.2, this.1⟩

theorem smallReach_of_tablesOK (ft : FT) (h : tablesOK ft = true) : smallReach ft = true := by
  simp only [tablesOK, tableOK, smallReach, tableReach2, List.all_eq_true, List.mem_range, Bool.and_eq_true, beq_iff_eq,
    decide_eq_true_eq] at h ⊢
  intro b hb
  exact geomN_witness (h b (by omega)).1 (by omega) (by have := (h b (by omega)).2; omega)

theorem uintRangeBiased_small_reaches (ft : FT) (hs : smallReach ft = true) (min max v : UInt64) (h1 : min ≤ v) (h2 : v ≤ max)
    (hb : max.toNat < min.toNat + 2 ^ 12) (fuel : Nat) :
    ReachesVal (fun (k : UInt64 × Bool × Bool → Prog) => uintRange ft min max true (fuel + 1) (fun x l r => k (x, l, r)))
      (v, false, false) := by
  have hmm := UInt64.le_trans h1 h2
  have hlen : len64 (max - min) ≤ 12 := (len64_le_iff _ 12).mpr (by
    rw [UInt64.toNat_sub_of_le _ _ hmm]; have := UInt64.le_iff_toNat_le.mp hmm; omega)
  obtain ⟨w, hw, hg⟩ := smallReach_spec ft hs (len64 (max - min)) hlen
  have := overflowAt_ge (len64 (max - min))
  exact ReachesVal.uintRange h1 h2
    (uintBiased_reaches_noflags ft (max - min) (v - min) w _ (u64_sub_le_sub h1 h2) hw hg (Nat.le_refl _) (by omega) fuel)

theorem i64_pos_mag {min max x : Int64} (h1 : min ≤ x) (h2 : x ≤ max) (h0 : 0 ≤ x) (hw : max.toInt - min.toInt < 4096) :
    (if min ≥ 0 then min.toUInt64 else 0) ≤ x.toUInt64 ∧ x.toUInt64 ≤ max.toUInt64 ∧
      max.toUInt64.toNat < (if min ≥ 0 then min.toUInt64 else 0).toNat + 2 ^ 12 := by
  have hlo := i64_posLo_cast min
  generalize (if min ≥ 0 then min.toUInt64 else 0) = lo at hlo ⊢
  simp only [Int64.le_iff_toInt_le, Int64.toInt_zero] at h1 h2 h0
  have hx := i64_toUInt64_cast h0
  have hM := i64_toUInt64_cast (x := max) (by omega)
  simp only [UInt64.le_iff_toNat_le]
  omega

theorem i64_neg_mag {min max x : Int64} (h1 : min ≤ x) (h2 : x ≤ max) (h0 : max ≤ 0 ∨ x < 0) (hw : max.toInt - min.toInt < 4096) :
    (if max ≤ 0 then (-max).toUInt64 else 1) ≤ (-x).toUInt64 ∧ (-x).toUInt64 ≤ (-min).toUInt64 ∧
      (-min).toUInt64.toNat < (if max ≤ 0 then (-max).toUInt64 else 1).toNat + 2 ^ 12 := by
  have hlo := i64_negLo_cast max
  generalize (if max ≤ 0 then (-max).toUInt64 else 1) = lo at hlo ⊢
  simp only [Int64.le_iff_toInt_le, Int64.lt_iff_toInt_lt, Int64.toInt_zero] at h1 h2 h0
  have hx := i64_neg_toUInt64_cast (x := x) (by omega)
  have hm := i64_neg_toUInt64_cast (x := min) (by omega)
  simp only [UInt64.le_iff_toNat_le]
  omega

theorem intRange_reaches_of_small (ft : FT) (hs : smallReach ft = true) (hc : 0 < ft.coinHalf ∧ ft.coinHalf < thrNever)
    (min max x : Int64) (h1 : min ≤ x) (h2 : x ≤ max) (hw : max.toInt - min.toInt < 4096) (fuel : Nat) :
    ReachesVal (fun (k : Int64 × Bool × Bool → Prog) => intRange ft min max (fuel + 1) (fun i l r => k (i, l, r)))
      (x, false, false) := by
  simp only [intRange, Int64.not_lt.mpr (Int64.le_trans h1 h2), if_false]
  -- the negative branch when `x < 0`, and for `x = 0` when the range is non-positive (the coin is then always negative);
  -- the word drawn is `uint64(-x)` resp. `uint64(x)`, which `Int64.toInt64_toUInt64` turns back into `x`
  by_cases hn : ¬ min ≥ 0 ∧ (max ≤ 0 ∨ x < 0)
  · obtain ⟨a1, a2, a3⟩ := i64_neg_mag h1 h2 hn.2 hw
    refine ReachesVal.signCoin_neg hc.2 hn.1 ?_
    simp only [if_true, if_neg hn.1]
    have := (uintRangeBiased_small_reaches ft hs _ _ _ a1 a2 a3 fuel).map
      fun (y : UInt64 × Bool × Bool) => (-y.1.toInt64, y.2.2, y.2.1 && decide (max ≤ 0))
    rwa [Int64.toInt64_toUInt64, Int64.neg_neg] at this
  · have h0 : 0 ≤ x ∧ (min ≥ 0 ∨ ¬ max ≤ 0) := by
      simp only [ge_iff_le, Int64.le_iff_toInt_le, Int64.lt_iff_toInt_lt, Int64.toInt_zero] at h1 h2 hn ⊢; omega
    obtain ⟨a1, a2, a3⟩ := i64_pos_mag h1 h2 h0.1 hw
    refine ReachesVal.signCoin_pos hc.1 h0.2 ?_
    simp only [Bool.false_eq_true, if_false]
    have := (uintRangeBiased_small_reaches ft hs _ _ _ a1 a2 a3 fuel).map
      fun (y : UInt64 × Bool × Bool) => (y.1.toInt64, y.2.1 && decide (min ≥ 0), y.2.2)
    rwa [Int64.toInt64_toUInt64] at this

/-- **every value of a signed range of fewer than 2^12 values** is handed on by `genIntRange` with both overflow
    flags false; the bounds as integers within ±2^40, so that no `Int64` fact is left to the caller (`genUfloatRange`'s
    exponent draw) -/
theorem intRange_small_reaches (ft : FT) (hs : smallReach ft = true) (hc : 0 < ft.coinHalf ∧ ft.coinHalf < thrNever)
    (a b c : Int) (hac : a ≤ c) (hcb : c ≤ b) (hsm : -2 ^ 40 ≤ a ∧ b ≤ 2 ^ 40) (hw : b - a < 4096) (fuel : Nat) :
    ReachesVal (fun (k : Int64 × Bool × Bool → Prog) => intRange ft (Int64.ofInt a) (Int64.ofInt b) (fuel + 1) (fun i l r => k (i, l, r)))
      (Int64.ofInt c, false, false) := by
  obtain ⟨la, ub⟩ : -2 ^ 63 ≤ a ∧ b < 2 ^ 63 := by omega
  have ta := Int64.toInt_ofInt_of_le la (Int.lt_of_le_of_lt (Int.le_trans hac hcb) ub)
  have tb := Int64.toInt_ofInt_of_le (Int.le_trans la (Int.le_trans hac hcb)) ub
  have tc := Int64.toInt_ofInt_of_le (Int.le_trans la hac) (Int.lt_of_le_of_lt hcb ub)
  exact intRange_reaches_of_small ft hs hc _ _ _ (by rw [Int64.le_iff_toInt_le, ta, tc]; exact hac)
    (by rw [Int64.le_iff_toInt_le, tb, tc]; exact hcb) (by rw [ta, tb]; exact hw) fuel

theorem clearLow_zero (sfMin sf : UInt64) (i : Nat) : clearLow sfMin 0 i sf = sf := rfl

theorem sfDraw_reaches (ft : FT) (b : UInt64 × UInt64) (sf : UInt64) (h1 : b.1 ≤ sf) (h2 : sf ≤ b.2) (fuel : Nat) :
    ReachesVal (sfDraw ft b (fuel + 1)) sf := by
  refine ReachesVal.bind (q := fun (r : UInt64) k => uintRange ft b.1 b.2 false (fuel + 1) fun sf _ _ =>
      k (clearLow b.1 (len64 (b.2 - b.1) - r.toNat) 0 sf))
    (uintNoReject_reaches (UInt64.ofNat (len64 (b.2 - b.1))) _ (UInt64.le_refl _)) ?_
  rw [UInt64.toNat_ofNat_of_lt' (Nat.lt_of_le_of_lt (len64_le_64 _) (by decide)), Nat.sub_self]
  exact (uintRangeUnbiased_reaches ft _ _ sf h1 h2 fuel).map fun y => y.1

theorem ufloatSignif_reaches (ft : FT) (f : FFmt) (hf : f.WF) {p0 p1 pt : Int × UInt64 × UInt64} (hb : BoundsOK f p0 p1)
    (h : InRange f p0 p1 pt) (fuel : Nat) :
    ReachesVal (ufloatSignif ft f.S p0 p1 pt.1 false false (fuel + 1)) (pt.2.1, pt.2.2) := by
  obtain ⟨⟨hsi1, hsi2⟩, hsf1, hsf2⟩ := ((switches_spec f hf hb h.2.1.1 h.2.2.1).2.2 pt.2.1 pt.2.2).mpr h
  rw [ufloatSignif_eq]
  exact ReachesVal.bind (q := fun (x : UInt64 × Bool × Bool) k =>
      sfDraw ft (sfBounds f.S p0 p1 pt.1 false false x.1) (fuel + 1) fun sf => k (x.1, sf))
    (uintRangeUnbiased_reaches ft _ _ pt.2.1 hsi1 hsi2 fuel) ((sfDraw_reaches ft _ pt.2.2 hsf1 hsf2 fuel).map fun sf => (pt.2.1, sf))

theorem ufloatRange_reaches (ft : FT) (hs : smallReach ft = true) (hc : 0 < ft.coinHalf ∧ ft.coinHalf < thrNever)
    (f : FFmt) (hf : f.WF) (hE : f.E ≤ 11) (lo hi : UInt64) (h0 : 0 ≤ f.key lo) {x : Int × UInt64 × UInt64}
    (hx : UfloatOK f lo hi x) (fuel : Nat) :
    ReachesVal (fun (k : Int × UInt64 × UInt64 → Prog) => ufloatRange ft f lo hi (fuel + 1) (fun e si sf => k (e, si, sf))) x := by
  have h := And.intro h0 (Int.le_trans hx.2.1 hx.2.2)
  obtain ⟨hb, hin⟩ := inRange_iff f hf h
  have hin := (hin x).mpr hx
  -- the exponents of a format with at most 11 exponent bits lie within ±2^10
  obtain ⟨hsm, hw⟩ : (-2 ^ 40 ≤ (f.parts lo).1 ∧ (f.parts hi).1 ≤ 2 ^ 40) ∧ (f.parts hi).1 - (f.parts lo).1 < 4096 := by
    have := hb.ok0.e_lo; have := exp_le f hf hb.ok1
    have : f.bias + 1 ≤ 2 ^ 10 := by rw [f.bias_succ hf]; exact Nat.pow_le_pow_right (by decide) (Nat.sub_le_of_le_add hE)
    omega
  simp only [ufloatRange, (ufloatAssert_iff f lo hi).mpr h, Bool.not_true, Bool.false_eq_true, if_false]
  refine ReachesVal.bind ((intRange_small_reaches ft hs hc _ _ _ hin.2.1.1 hin.2.2.1 hsm hw fuel).group floatExpLabel false encTri) ?_
  rw [vTriGet_enc, ofInt_exp f hf hin.1]
  have RS := ((ufloatSignif_reaches ft f hf hb hin fuel).group (d := fun _ => false) floatSignifLabel false encPair).map
    (fun v2 => (x.1, (vPairGet v2).1, (vPairGet v2).2))
  rwa [vPairGet_enc] at RS

theorem word_decomp (f : FFmt) (hf : f.WF) (t : UInt64) (ht : t.toNat < 2 ^ (f.S + f.E + 1)) :
    t.toNat = (f.mag t).toNat + (if f.isNeg t then 2 ^ (f.S + f.E) else 0) := by
  have h := Nat.mod_pow_succ (x := t.toNat) (b := 2) (k := f.S + f.E)
  rw [Nat.mod_eq_of_lt ht, ← Nat.toNat_testBit, ← f.isNeg_iff hf, ← f.mag_toNat hf] at h
  generalize f.isNeg t = n at h ⊢
  cases n <;> simpa using h

theorem word_determined (f : FFmt) (hf : f.WF) (a b : UInt64) (ha : a.toNat < 2 ^ (f.S + f.E + 1)) (hb : b.toNat < 2 ^ (f.S + f.E + 1))
    (hm : f.mag a = f.mag b) (hn : f.isNeg a = f.isNeg b) : a = b := by
  apply UInt64.toNat_inj.mp
  rw [word_decomp f hf a ha, word_decomp f hf b hb, hm, hn]

theorem fromParts_parts (f : FFmt) (hf : f.WF) (t : UInt64) (ht : t.toNat < 2 ^ (f.S + f.E + 1)) :
    f.fromParts (f.isNeg t) (f.parts t).1 (f.parts t).2.1 (f.parts t).2.2 = t := by
  have hok := (parts_ok f hf t).1
  obtain ⟨hm, hs⟩ := fromParts_spec f hf (f.isNeg t) hok
  refine word_determined f hf _ t ?_ ht (UInt64.toNat_inj.mp (by rw [hm, (parts_ok f hf t).2])) hs
  have hu : (f.ufromParts (f.parts t).1 (f.parts t).2.1 (f.parts t).2.2).toNat < 2 ^ (f.S + f.E + 1) := by
    rw [ufromParts_toNat f hf hok]
    exact Nat.lt_of_lt_of_le (fval_lt f hok) (Nat.pow_le_pow_right (by decide) (by omega))
  unfold FFmt.fromParts
  split
  · simp only [FFmt.fneg, UInt64.toNat_xor, f.signBit_toNat hf]
    exact Nat.xor_lt_two_pow hu (Nat.pow_lt_pow_right (by decide) (by omega))
  · exact hu

/-- the values `Float32Range/Float64Range(min, max)` can produce: in range, not NaN, and with the
    sign the range admits (a range on one side of zero produces the zero of that side only) -/
def FloatTarget (f : FFmt) (min max t : UInt64) : Prop :=
  FloatOK f min max t ∧ t.toNat < 2 ^ (f.S + f.E + 1) ∧
  (f.ge0 min = true → f.isNeg t = false) ∧ (f.ge0 min = false → f.le0 max = true → f.isNeg t = true)

/-- **every float the range allows is produced by some bit stream** (formats with at most 11
    exponent bits: float32 and float64) -/
theorem floatValue_reaches (ft : FT) (hs : smallReach ft = true) (hc : 0 < ft.coinHalf ∧ ft.coinHalf < thrNever)
    (f : FFmt) (hf : f.WF) (hE : f.E ≤ 11) (min max t : UInt64) (hok : floatRangeOK f min max = true)
    (ht : FloatTarget f min max t) (fuel : Nat) : ReachesVal (floatValue ft f min max (fuel + 1)) t := by
  obtain ⟨⟨k1, k2, _⟩, htw, hsg1, hsg2⟩ := ht
  rw [f.fle_iff, f.key_eq t] at k1 k2
  -- (`hok` is not needed: the bounds on `t` alone decide which call hands it on)
  have hsgn : if f.isNeg t then ¬ f.ge0 min = true else f.ge0 min = true ∨ ¬ f.le0 max = true := by
    cases hn : f.isNeg t
    · by_cases hge : f.ge0 min = true
      · exact Or.inl hge
      · exact Or.inr fun hle => by rw [hsg2 (Bool.not_eq_true _ ▸ hge) hle] at hn; cases hn
    · exact fun hge => by rw [hsg1 hge] at hn; cases hn
  obtain ⟨h0, -, hv⟩ := signedCall_keys f hf min max (f.isNeg t) hsgn
  have call := (ufloatRange_reaches ft hs hc f hf hE _ _ h0
      ⟨(parts_ok f hf t).1, by rw [(parts_ok f hf t).2]; exact (hv _).mpr ⟨k1, k2⟩⟩ fuel).map
    (fun (x : Int × UInt64 × UInt64) => f.fromParts (f.isNeg t) x.1 x.2.1 x.2.2)
  rw [fromParts_parts f hf t htw] at call
  rw [floatValue_eq]
  cases hn : f.isNeg t <;> rw [hn] at call hsgn
  · exact ReachesVal.signCoin_pos hc.1 hsgn call
  · exact ReachesVal.signCoin_neg hc.2 hsgn call

end Rapid
