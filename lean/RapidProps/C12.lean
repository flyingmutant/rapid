/-
  C12 — minimization reaches the exact boundary on threshold properties.
-/
import RapidProofs.PassFix
import RapidProofs.TranslatedMinEq
import RapidProofs.TranslatedMinSEq

namespace Rapid.C12

theorem minimize_zero (cond : UInt64 → Bool) : minimize 0 cond = (0, []) :=
  if_pos rfl

/-- a value that satisfies `cond` at 0 minimizes to 0 -/
theorem minimize_to_zero (u : UInt64) (cond : UInt64 → Bool) (hu : u ≠ 0) (h0 : cond 0 = true) :
    (minimize u cond).1 = 0 := by
  have hu0 : ¬ (u == 0) = true := fun h => hu (of_decide_eq_true h)
  have hpos : (0 : UInt64) < u := UInt64.pos_iff_ne_zero.mpr hu
  rw [minimize, if_neg hu0, trySmall, if_pos ⟨hpos, by decide⟩, h0]
  rfl

example : (minimize 1000 (fun x => x ≥ 37)).1 = 37 := by decide


/-- **exactness**: for every threshold `θ ≤ u`, `minimize u (θ ≤ ·)` returns exactly `θ` — all
    2^64 thresholds and all starting values (the tests sample 100) -/
theorem minimize_reaches_threshold (u θ : UInt64) (h : θ ≤ u) : (minimize u (fun x => decide (θ ≤ x))).1 = θ :=
  minimize_exact u θ h

/-- **`minimize` of /repo** (shrink.go: `minimize`, `minimizer.accept/rShift/unsetBits/sortBits/binSearch`, translated
    from the working tree on every run) terminates and returns the result of the model's `minimize`, for every start
    value and every predicate (the label the source hands to the predicate is ignored by it) -/
theorem source_minimize (u : UInt64) (cond : UInt64 → Bool) (fuel : Nat) (hf : 130 < fuel) :
    Translated.minimize u (fun x _ => cond x) fuel = .ok (minimize u cond).1 :=
  tr_minimize u cond fuel hf

/-- exactness, for the source: every threshold `θ ≤ u` is found exactly -/
theorem source_minimize_reaches_threshold (u θ : UInt64) (h : θ ≤ u) (fuel : Nat) (hf : 130 < fuel) :
    Translated.minimize u (fun x _ => decide (θ ≤ x)) fuel = .ok θ := by
  rw [source_minimize u (fun x => decide (θ ≤ x)) fuel hf, minimize_reaches_threshold u θ h]

/-- `minimize u cond` asks `cond` only about values below `u`: result and probe sequence are
    determined by `cond` on `[0, u)` -/
theorem minimize_local (u : UInt64) (cond cond' : UInt64 → Bool) (h : ∀ x, x < u → cond x = cond' x) :
    minimize u cond = minimize u cond' :=
  minimize_congr u h

/-- exactness for a block of a recorded bitstream: the recorded word `u` made the property
    fail, the property fails for a replacement `x < u` iff `θ ≤ x` — then the block is
    minimized to exactly `θ` -/
theorem block_minimized_to_boundary (u θ : UInt64) (cond : UInt64 → Bool) (h : θ ≤ u)
    (hc : ∀ x, x < u → cond x = decide (θ ≤ x)) : (minimize u cond).1 = θ :=
  minimize_exact_on u θ cond h hc

example : (37 : UInt64) ≤ 1000 := by decide


/-- when `minimizeBlocks` ends without an accepted candidate, no block can be lowered by one:
    the test case with block `j` decremented does not reproduce the failure -/
theorem no_block_can_be_lowered (p : Prog) (s s' : SS) (F : Nat) (hF : s.rc.data.length ≤ F) (hc : CacheOK p s)
    (hrun : (minimizeBlocks F 0).run p s = .ok ((), s')) (hno : s'.shrinks = s.shrinks)
    (j : Nat) (hj : j < s.rc.data.length) (hnz : s.rc.data[j] ≠ 0) :
    ¬ Reproduces p s (s.rc.data.set j (s.rc.data[j] - 1)) :=
  minimizeBlocks_fixpoint p s s' F hF hc hrun hno j hj hnz

/-- …so a block on which the failure depends monotonically (a threshold on the drawn integer:
    the value encodings are monotone in their blocks) is at the exact boundary -/
theorem threshold_block_is_exact (p : Prog) (s s' : SS) (F : Nat) (hF : s.rc.data.length ≤ F) (hc : CacheOK p s)
    (hrun : (minimizeBlocks F 0).run p s = .ok ((), s')) (hno : s'.shrinks = s.shrinks)
    (j : Nat) (hj : j < s.rc.data.length) (hnz : s.rc.data[j] ≠ 0)
    (hmono : ∀ x y : UInt64, x ≤ y → y < s.rc.data[j] → Reproduces p s (s.rc.data.set j x) → Reproduces p s (s.rc.data.set j y)) :
    ∀ x, x < s.rc.data[j] → ¬ Reproduces p s (s.rc.data.set j x) :=
  fails_below_of_pred hnz hmono (minimizeBlocks_fixpoint p s s' F hF hc hrun hno j hj hnz)

/-- when `removeGroups` ends without an accepted candidate, no finished standalone group — a
    collection element together with its continue-coin — can be dropped: a collection that
    must have at least `k` elements for the failure has exactly `k` -/
theorem no_element_can_be_dropped (p : Prog) (s s' : SS) (F : Nat) (hF : s.rc.groups.length ≤ F) (hc : CacheOK p s)
    (hrun : (removeGroups F 0).run p s = .ok ((), s')) (hno : s'.shrinks = s.shrinks)
    (j : Nat) (hj : j < s.rc.groups.length) (hst : s.rc.groups[j].standalone = true) (hfin : 0 ≤ s.rc.groups[j].end_)
    (hne : (s.rc.groups[j].begin : Int) ≠ s.rc.groups[j].end_) :
    ∃ buf, without? s.rc.data [s.rc.groups[j]] = some buf ∧ ¬ Reproduces p s buf :=
  removeGroups_fixpoint p s s' F hF hc hrun hno j hj hst hfin hne

/-- the cache invariant these statements assume holds in every state the shrinker reaches -/
theorem cache_invariant (p : Prog) {α : Type} (sc : Script α) (rc : Rec) (err : Option Err) (s' : SS) (a : α)
    (h : sc.run p { rc := rc, err := err } = .ok (a, s')) : CacheOK p s' :=
  run_cacheOK (cacheOK_init p rc err) h

/-- **`minimize(u, cond)` of /repo (with `rShift`, `unsetBits`, `sortBits`, `binSearch` and `minimizer.accept`), translated with a
    callback that talks to the shrinker, agrees with the model's `minimizeS`** against every shrinker and for every pair of
    callbacks that agree: the same probes in the same order, the same result — or the translated loops run out of fuel -/
theorem source_minimize_with_callback {σ : Type} (o : Oracle σ) {cT : UInt64 → String → Go.SM Bool} {cM : UInt64 → Script Bool}
    (hc : CondAgree o cT cM) (fuel : Nat) (u : UInt64) (s : σ) :
    Agree (fun (a b : UInt64) => a = b) (Rapid.SM.exec o (Rapid.Translated.minimizeS u cT fuel) s) ((minimizeS u cM).exec o s) :=
  tr_minimizeS o hc fuel u s

/-- **`minimizeBlocks` of /repo agrees with the model's pass** (the pass `no_block_can_be_lowered` and
    `threshold_block_is_exact` are about) -/
theorem source_minimizeBlocks {σ : Type} (o : Oracle σ) (wf : o.WF) (fuel fm : Nat) (h : fuel ≤ fm) (s : σ) :
    Agree (fun _ _ => True) (Rapid.SM.exec o (Rapid.Translated.shrinker_minimizeBlocks fuel) s) ((minimizeBlocks fm 0).exec o s) :=
  tr_minimizeBlocks o wf fuel fm s h

end Rapid.C12
