/-
  RapidProofs.U64 — `UInt64` arithmetic without wrap-around, read in `Nat`; the conversions between an `Int64` and the
  `UInt64` that holds its magnitude (`uint64(x)`, `uint64(-x)`, `int64(u)`, `-int64(u)`); the bit length `len64`
  (`bits.Len64`): `len64 u ≤ k` exactly if `u < 2^k`; shifts by less than 64, `bitmask64` and `mask` read in `Nat`.  First
  `mul_add_lt`: a two-digit numeral is bounded through its leading digit (words in base `2^64`, the fields of a float).
-/
import RapidModel.Bits

namespace Rapid

theorem mul_add_lt {A P i j : Nat} (hi : i < A) (hj : j < P) : i * P + j < A * P := by
  have := Nat.mul_le_mul_right P (show i + 1 ≤ A from hi)
  rw [Nat.add_mul] at this; omega

theorem u64_pred_toNat {u : UInt64} (h : u ≠ 0) : 0 < u.toNat ∧ (u - 1).toNat = u.toNat - 1 := by
  have hpos : 0 < u.toNat := Nat.pos_of_ne_zero fun h0 => h (UInt64.toNat_inj.mp h0)
  exact ⟨hpos, UInt64.toNat_sub_of_le _ _ (UInt64.le_iff_toNat_le.mpr hpos)⟩

theorem u64_pred_lt {u : UInt64} (h : u ≠ 0) : u - 1 < u := by
  obtain ⟨hpos, h1⟩ := u64_pred_toNat h
  rw [UInt64.lt_iff_toNat_lt, h1]
  exact Nat.sub_one_lt (Nat.ne_of_gt hpos)

theorem u64_succ_toNat {a b : UInt64} (h : a < b) : (a + 1).toNat = a.toNat + 1 := by
  rw [UInt64.toNat_add]
  exact Nat.mod_eq_of_lt (Nat.lt_of_le_of_lt (Nat.succ_le_of_lt (UInt64.lt_iff_toNat_lt.mp h)) b.toNat_lt)

theorem u64_succ_le {a b : UInt64} (h : a < b) : a + 1 ≤ b := by
  rw [UInt64.le_iff_toNat_le, u64_succ_toNat h]
  exact UInt64.lt_iff_toNat_lt.mp h

theorem u64_mid_toNat {i j : UInt64} (h : i < j) : (i + (j - i) / 2).toNat = i.toNat + (j.toNat - i.toNat) / 2 := by
  have hij := UInt64.le_of_lt h
  rw [UInt64.toNat_add, UInt64.toNat_div, UInt64.toNat_sub_of_le _ _ hij]
  refine Nat.mod_eq_of_lt (Nat.lt_of_le_of_lt (Nat.add_le_add_left (Nat.div_le_self _ 2) _) ?_)
  rw [Nat.add_sub_cancel' (UInt64.le_iff_toNat_le.mp hij)]
  exact j.toNat_lt

theorem u64_mid_lt {i j : UInt64} (h : i < j) : (i + (j - i) / 2).toNat < j.toNat := by
  rw [u64_mid_toNat h]
  exact Nat.add_lt_of_lt_sub' (Nat.div_lt_self (Nat.sub_pos_of_lt (UInt64.lt_iff_toNat_lt.mp h)) (Nat.lt_succ_self 1))

/-- both halves of an interval shorter than `2^(k+1)` are shorter than `2^k`: with `j = i + d` and `q = d / 2`, `q < 2^k` and
    `d < 2 * (q + 1) ≤ q + 1 + 2^k` -/
theorem u64_mid_halves {i j : UInt64} {k : Nat} (h : i < j) (hd : j.toNat < i.toNat + 2 ^ (k + 1)) :
    (i + (j - i) / 2).toNat < i.toNat + 2 ^ k ∧ j.toNat < (i + (j - i) / 2 + 1).toNat + 2 ^ k := by
  have hij := UInt64.lt_iff_toNat_lt.mp h
  rw [u64_succ_toNat (UInt64.lt_iff_toNat_lt.mpr (u64_mid_lt h)), u64_mid_toNat h]
  omega

theorem u64_add_sub (a b : UInt64) : a + (b - a) = b := by rw [UInt64.add_comm, UInt64.sub_add_cancel]

theorem u64_offset {min max u : UInt64} (hmm : min ≤ max) (hu : u ≤ max - min) : min ≤ min + u ∧ min + u ≤ max := by
  rw [UInt64.le_iff_toNat_le, UInt64.toNat_sub_of_le _ _ hmm] at hu
  have hle := Nat.add_le_of_le_sub' (UInt64.le_iff_toNat_le.mp hmm) hu
  rw [UInt64.le_iff_toNat_le, UInt64.le_iff_toNat_le, UInt64.toNat_add, Nat.mod_eq_of_lt (Nat.lt_of_le_of_lt hle max.toNat_lt)]
  exact ⟨Nat.le_add_right _ _, hle⟩

theorem u64_sub_le_sub {min max v : UInt64} (h1 : min ≤ v) (h2 : v ≤ max) : v - min ≤ max - min := by
  rw [UInt64.le_iff_toNat_le, UInt64.toNat_sub_of_le _ _ h1, UInt64.toNat_sub_of_le _ _ (UInt64.le_trans h1 h2)]
  exact Nat.sub_le_sub_right (UInt64.le_iff_toNat_le.mp h2) _

theorem i64_toUInt64_toNat {x : Int64} (h : 0 ≤ x.toInt) : x.toUInt64.toNat = x.toInt.toNat :=
  Int64.toNat_toUInt64_of_le (Int64.le_iff_toInt_le.mpr h)

/-- `omega` splits on every `Int.toNat`: prefer this and the next cast form in its goals -/
theorem i64_toUInt64_cast {x : Int64} (h : 0 ≤ x.toInt) : (x.toUInt64.toNat : Int) = x.toInt := by
  rw [i64_toUInt64_toNat h, Int.toNat_of_nonneg h]

/-- also for `x = MinInt64`, whose negation is itself: the magnitude is `2^63`.  `-x` is `ofInt (-x.toInt)`, and `-x.toInt` lies
    in `[0, 2^64)`, where reduction modulo `2^64` does nothing. -/
theorem i64_neg_toUInt64_cast {x : Int64} (h : x.toInt ≤ 0) : ((-x).toUInt64.toNat : Int) = -x.toInt := by
  have hx : -x = Int64.ofInt (-x.toInt) := by rw [Int64.ofInt_neg, Int64.ofInt_toInt]
  rw [hx]
  show ((BitVec.ofInt 64 (-x.toInt)).toNat : Int) = _
  rw [BitVec.toNat_ofInt, Int.toNat_of_nonneg (Int.emod_nonneg _ (by decide)),
    Int.emod_eq_of_lt (Int.neg_nonneg_of_nonpos h) (Int.lt_of_le_of_lt (Int.neg_le_neg x.le_toInt) (by decide))]

theorem u64_toInt64_eq_ofNat (u : UInt64) : u.toInt64 = Int64.ofNat u.toNat := by
  rw [← UInt64.toInt64_ofNat', UInt64.ofNat_toNat]

theorem u64_toInt64_toInt {u : UInt64} (h : u.toNat < 2 ^ 63) : u.toInt64.toInt = u.toNat := by
  rw [u64_toInt64_eq_ofNat, Int64.toInt_ofNat_of_lt h]

theorem u64_toInt64_toInt_big (u : UInt64) (h : ¬ u.toNat < 2 ^ 63) : u.toInt64.toInt < 0 :=
  BitVec.toInt_neg_iff.mpr (Nat.mul_le_mul_left 2 (Nat.le_of_not_lt h))

theorem u64_neg_toInt64_toInt {u : UInt64} (h : u.toNat ≤ 2 ^ 63) : (-u.toInt64).toInt = -(u.toNat : Int) := by
  rw [u64_toInt64_eq_ofNat, Int64.toInt_neg_ofNat_of_le h]

theorem len64_le_iff (u : UInt64) (k : Nat) : len64 u ≤ k ↔ u.toNat < 2 ^ k := by
  unfold len64
  by_cases h : u = 0
  · subst h; simp [Nat.two_pow_pos]
  · rw [if_neg h, ← Nat.log2_lt fun h0 => h (UInt64.toNat_inj.mp h0)]
    exact Iff.rfl

theorem lt_two_pow_len64 (u : UInt64) : u.toNat < 2 ^ len64 u := (len64_le_iff u _).mp (Nat.le_refl _)

theorem len64_mono {u m : UInt64} (h : u ≤ m) : len64 u ≤ len64 m :=
  (len64_le_iff u _).mpr (Nat.lt_of_le_of_lt (UInt64.le_iff_toNat_le.mp h) (lt_two_pow_len64 m))

theorem len64_le_64 (u : UInt64) : len64 u ≤ 64 := (len64_le_iff u 64).mpr u.toNat_lt

theorem len64_pos {u : UInt64} (h : u ≠ 0) : 0 < len64 u := by
  unfold len64; simp [h]

theorem len64_zero : len64 0 = 0 := by decide

theorem len64_eq_zero {u : UInt64} (h : len64 u = 0) : u = 0 :=
  Decidable.by_contra fun hu => Nat.ne_of_gt (len64_pos hu) h

/-- why `rShift` is done after `len64 best` accepted halvings -/
theorem len64_shr1 {b : UInt64} {k : Nat} (h : len64 b ≤ k + 1) : len64 (b >>> 1) ≤ k := by
  rw [len64_le_iff, Nat.pow_succ'] at h
  rw [len64_le_iff, UInt64.toNat_shiftRight]
  exact Nat.div_lt_of_lt_mul h

theorem toUInt64_toNat {n : Nat} (h : n < 64) : n.toUInt64.toNat = n :=
  Nat.mod_eq_of_lt (Nat.lt_trans h (by decide))

theorem shr_toNat (x : UInt64) {n : Nat} (h : n < 64) : (x >>> n.toUInt64).toNat = x.toNat / 2 ^ n := by
  rw [UInt64.toNat_shiftRight, toUInt64_toNat h, Nat.mod_eq_of_lt h, Nat.shiftRight_eq_div_pow]

theorem shl_toNat (x : UInt64) {n : Nat} (h : n < 64) (hx : x.toNat * 2 ^ n < 2 ^ 64) :
    (x <<< n.toUInt64).toNat = x.toNat * 2 ^ n := by
  rw [UInt64.toNat_shiftLeft, toUInt64_toNat h, Nat.mod_eq_of_lt h, Nat.shiftLeft_eq, Nat.mod_eq_of_lt hx]

theorem one_shl_toNat {n : Nat} (h : n < 64) : ((1 : UInt64) <<< n.toUInt64).toNat = 2 ^ n := by
  have h2 : 1 * 2 ^ n < 2 ^ 64 := by rw [Nat.one_mul]; exact Nat.pow_lt_pow_right (by decide) h
  rw [shl_toNat 1 h h2]; exact Nat.one_mul _

theorem bitmask64_toNat {n : Nat} (h : n < 64) : (bitmask64 n).toNat = 2 ^ n - 1 := by
  have hle : (1 : UInt64) ≤ 1 <<< n.toUInt64 := by
    rw [UInt64.le_iff_toNat_le, one_shl_toNat h]; exact Nat.two_pow_pos n
  rw [bitmask64, if_neg (by omega), UInt64.toNat_sub_of_le _ _ hle, one_shl_toNat h]; rfl

theorem and_mask_toNat (x : UInt64) {n : Nat} (h : n < 64) : (x &&& bitmask64 n).toNat = x.toNat % 2 ^ n := by
  rw [UInt64.toNat_and, bitmask64_toNat h, Nat.and_two_pow_sub_one_eq_mod]

theorem or_toNat_of_shl (a b : UInt64) {n : Nat} (h : n < 64) (hb : b.toNat < 2 ^ n) (hab : a.toNat * 2 ^ n + b.toNat < 2 ^ 64) :
    ((a <<< n.toUInt64) ||| b).toNat = a.toNat * 2 ^ n + b.toNat := by
  rw [UInt64.toNat_or, shl_toNat a h (Nat.lt_of_le_of_lt (Nat.le_add_right _ _) hab), ← Nat.shiftLeft_eq,
    ← Nat.shiftLeft_add_eq_or_of_lt hb]

theorem bitmask64_of_ge {n : Nat} (h : 64 ≤ n) : bitmask64 n = 0xFFFFFFFFFFFFFFFF := if_pos h

theorem le_bitmask_iff {k : Nat} (hk : k < 64) (x : UInt64) : x ≤ bitmask64 k ↔ x.toNat < 2 ^ k := by
  rw [UInt64.le_iff_toNat_le, bitmask64_toNat hk]; have := Nat.two_pow_pos k; omega

theorem mask_of_lt (n : Nat) (u : UInt64) (h : u.toNat < 2 ^ n) : mask n u = u := by
  by_cases h64 : n < 64
  · apply UInt64.toNat_inj.mp
    rw [mask, and_mask_toNat u h64, Nat.mod_eq_of_lt h]
  · rw [mask, bitmask64_of_ge (Nat.le_of_not_lt h64)]
    exact UInt64.and_neg_one

theorem mask_le (n : Nat) (w : UInt64) : mask n w ≤ w := UInt64.and_le_left

theorem mask_zero (w : UInt64) : mask 0 w = 0 := by
  simp [mask, bitmask64]

end Rapid
