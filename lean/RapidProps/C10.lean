/-
  C10 — every invocation gets a live context and has all its cleanups run, LIFO.
  One invocation = one `checkOnce` (generation, reproduction, every minimization attempt,
  fail-file replay, output capture, final replay, fuzzing all go through it) or one
  `inner` (Custom function) — both end with `cleanupPhase`.
-/
import RapidModel.Generated.CallOrders
import RapidProofs.Context
import RapidProofs.Cleanups

namespace Rapid.C10

/-- all `T.Context()` calls of one invocation observe one and the same context -/
theorem one_context_per_invocation (p : Prog) (src : Src) (ts : TS) (id : Nat) (h : ts.ctx = some id) :
    (p.run src ts).ts.ctx = some id := (p.runs src ts).ctx_stable h

theorem later_calls_same_live_context (k : Prog) (src : Src) (ts : TS) (id : Nat) (h : ts.ctx = some id) :
    (Prog.ctx k).run src ts = (k.run src ts).after [] [] [] [.ctx id true] := by
  simp only [Prog.run, h]

/-- the context is cancelled before the first cleanup callback; the phase is bracketed -/
theorem cancelled_before_cleanups (ts : TS) :
    ∃ stackEvs, (cleanupPhase ts).evs =
      Ev.cleanupBegin :: ((match ts.ctx with | some id => [Ev.cancel id] | none => []) ++ stackEvs ++ [Ev.cleanupEnd]) ∧
      stackEvs = (runStack (stackSize ts.cleanups) { ts with ctx := none }).evs := by
  rw [cleanupPhase_eq]
  exact ⟨_, by cases ts.ctx <;> rfl, rfl⟩

/-- every registered callback — also those registered during cleanup — has been popped (run)
    when the phase ends, and no context is left -/
theorem all_cleanups_run (ts : TS) : (cleanupPhase ts).ts.cleanups = [] ∧ (cleanupPhase ts).ts.ctx = none :=
  cleanupPhase_clean ts

/-- …whatever the invocation did: the `*T` is clean before the next invocation begins -/
theorem clean_between_invocations (p : Prog) (src : Src) (ts : TS) : Clean (checkOnce p src ts).ts :=
  checkOnce_clean_after p src ts

/-- last-in, first-out, each exactly once -/
theorem lifo (ids : List Nat) (fuel : Nat) (ts : TS)
    (h : ts.cleanups = ids.map (fun i => CTree.emit i .done)) (hf : ids.length ≤ fuel) :
    (runStack fuel ts).evs = ids.map Ev.user ∧ (runStack fuel ts).err = none := by
  induction ids generalizing fuel ts with
  | nil => cases fuel <;> simp [runStack, h]
  | cons i is ih =>
    cases fuel with
    | zero => cases hf
    | succ n =>
      have := ih n { ts with cleanups := is.map fun i => CTree.emit i .done } rfl (Nat.le_of_succ_le_succ hf)
      simp only [runStack, h, List.map, CTree.run, this.1, this.2]
      exact ⟨rfl, rfl⟩

/-- a panicking callback does not stop the others (the last failure is reported; invalid data raised by a
    callback never replaces a failure: `pickErr`) -/
theorem panic_does_not_stop_cleanups (e : Err) (rest : List CTree) (fuel : Nat) (ts : TS)
    (h : ts.cleanups = .throw e :: rest) :
    (runStack (fuel + 1) ts).evs = (runStack fuel { ts with cleanups := rest }).evs ∧
    (runStack (fuel + 1) ts).ts = (runStack fuel { ts with cleanups := rest }).ts ∧
    (runStack (fuel + 1) ts).err = pickErr (some e) (runStack fuel { ts with cleanups := rest }).err := by
  rw [runStack, h]
  exact ⟨rfl, rfl, rfl⟩

/-- a body that registers A, then B (B registers C while running), with a context: order is
    cancel, B, C, A -/
example : (checkOnce (.ctx (.cleanup (.emit 1 .done) (.cleanup (.emit 2 (.reg (.emit 3 .done) .done)) (Prog.fatal "x" 1))))
    (.buf []) TS.fresh).evs =
    [.ctx 0 true, .signal, .cleanupBegin, .cancel 0, .user 2, .user 3, .user 1, .cleanupEnd] := by decide

/-- `runProp`: recover is deferred first and `cleanup` second, so cleanups run before the recover;
    then the property -/
theorem runProp_order_source :
    Rapid.Generated.order_runProp = ["if", "defer{panicToError}", "defer t.cleanup", "call prop", "return"] := rfl

/-- `checkOnce`: run the property with its cleanups, then the pending-failure check, then reset -/
theorem checkOnce_order_source :
    Rapid.Generated.order_checkOnce = ["if", "call runProp", "if", "call t.resetFailed", "return"] := rfl

/-- `T.cleanup`: the context is cancelled (under the lock) before the pop-and-run loop; the
    "run the remaining cleanups" handler is deferred before both -/
theorem cleanup_order_source :
    Rapid.Generated.order_cleanup = ["call t.cleaning.Store", "defer t.cleaning.Store", "defer{t.mu.Lock}",
      "call t.mu.Lock", "if", "call t.mu.Unlock", "for"] := rfl

/-- `customGen.maybeValue`: fresh inner T with its parent, deferred cleanup (which re-raises invalid data recorded
    from a cleanup function unless the function is failing), deferred recover -/
theorem maybeValue_order_source :
    Rapid.Generated.order_maybeValue = ["assign", "call newT", "assign", "assign", "defer t.cleanupCustom", "defer{recover}", "return"] :=
  rfl

theorem example_order_source : Rapid.Generated.order_example = ["assign", "defer t.cleanupCustom", "for"] := rfl

/-- `T.cleanupCustom`: all cleanups first, then the recorded invalid data; `T.runCleanupFunc`: the recover that
    records invalid data is deferred before the cleanup function is called -/
theorem cleanupCustom_order_source :
    Rapid.Generated.order_cleanupCustom = ["call t.cleanup", "if"] ∧
    Rapid.Generated.order_runCleanupFunc = ["defer{recover}", "call f"] :=
  ⟨rfl, rfl⟩

end Rapid.C10
