/-
  RapidProofs.FloatBits — the arithmetic of floats.go on bit patterns: what `ufloatNNParts` and
  `ufloatNNFromParts` compute as natural numbers, that the order of the parts
  (exponent, integer significand, fractional significand), taken lexicographically, is the
  order of the magnitudes, and that the comparisons of floats are comparisons of their keys
  (sign and magnitude read as one integer).
-/
import RapidModel.Float
import RapidProofs.U64

namespace Rapid

theorem u64_beq_zero (x : UInt64) : (x == 0) = decide (x.toNat = 0) := decide_eq_decide.mpr UInt64.toNat_inj.symm

theorem and_two_pow_eq_zero (x n : Nat) : x &&& 2 ^ n = 0 ↔ x.testBit n = false := by
  refine ⟨fun h => ?_, fun h => Nat.eq_of_testBit_eq fun i => ?_⟩
  · simpa using congrArg (·.testBit n) h
  · by_cases hi : n = i
    · subst hi; simp [h]
    · simp [hi]

/-- `uint64(int64(e)) + b` does not wrap around when `e + b` is a non-negative `int64` -/
theorem ofInt_add_toNat (e : Int) (b : UInt64) (h0 : 0 ≤ e + b.toNat) (h1 : e + b.toNat < 2 ^ 63) :
    ((Int64.ofInt e).toUInt64 + b).toNat = (e + b.toNat).toNat := by
  have hb : b = (Int64.ofInt b.toNat).toUInt64 := by
    rw [Int64.ofInt_eq_ofNat, Int64.toUInt64_ofNat', UInt64.ofNat_toNat]
  have ht : (Int64.ofInt (e + b.toNat)).toInt = e + b.toNat := Int64.toInt_ofInt_of_le (by omega) h1
  rw [hb, ← Int64.toUInt64_add, ← Int64.ofInt_add, ← hb, i64_toUInt64_toNat (by rw [ht]; exact h0), ht]

/-- a format that fits a 64-bit word with its sign bit -/
structure FFmt.WF (f : FFmt) : Prop where
  hE : 1 ≤ f.E
  hSE : f.S + f.E < 64

theorem FFmt.WF.hS {f : FFmt} (h : f.WF) : f.S < 64 := Nat.lt_of_le_of_lt (Nat.le_add_right _ _) h.hSE

theorem wf32 : fmt32.WF := ⟨by decide, by decide⟩
theorem wf64 : fmt64.WF := ⟨by decide, by decide⟩

theorem fracBits_le (e : Int) (S : Nat) : fracBits e S ≤ S := by
  unfold fracBits
  split
  · exact Nat.le_refl _
  · split
    · exact Nat.sub_le _ _
    · exact Nat.zero_le _

/-- the magnitude with exponent `e`, integer significand `si`, fractional significand `sf` -/
def fval (f : FFmt) (e : Int) (si sf : Nat) : Nat :=
  (e + f.bias).toNat * 2 ^ f.S + (si * 2 ^ fracBits e f.S + sf)

/-- parts that denote a magnitude of the format -/
structure PartsOK (f : FFmt) (e : Int) (si sf : Nat) : Prop where
  e_lo : 0 ≤ e + f.bias
  e_hi : (e + f.bias).toNat < 2 ^ f.E
  si_lt : si < 2 ^ (f.S - fracBits e f.S)
  sf_lt : sf < 2 ^ fracBits e f.S

/-- the lexicographic order of parts, as the two `switch`es of `genUfloatRange` compare them -/
def PartsLe (p q : Int × UInt64 × UInt64) : Prop :=
  p.1 ≤ q.1 ∧ (p.1 = q.1 → p.2.1 ≤ q.2.1 ∧ (p.2.1 = q.2.1 → p.2.2 ≤ q.2.2))

theorem PartsLe.refl (p : Int × UInt64 × UInt64) : PartsLe p p :=
  ⟨Int.le_refl _, fun _ => ⟨UInt64.le_refl _, fun _ => UInt64.le_refl _⟩⟩

theorem pair_le_iff {P i j i' j' : Nat} (hj : j < P) (hj' : j' < P) :
    i * P + j ≤ i' * P + j' ↔ i ≤ i' ∧ (i = i' → j ≤ j') := by
  rcases Nat.lt_trichotomy i i' with h | rfl | h
  · have := mul_add_lt h hj; omega
  · omega
  · have := mul_add_lt h hj'; omega

/-- the key from a sign and a magnitude given apart (`key_eq`): floats.go draws the two separately, and `K neg v` is the
    key of the float it then puts together -/
def K (n : Bool) (m : Nat) : Int := if n then -(m : Int) else m

section
variable (f : FFmt)

theorem sig_lt {e : Int} {si sf : Nat} (h : PartsOK f e si sf) : si * 2 ^ fracBits e f.S + sf < 2 ^ f.S := by
  rw [← Nat.pow_sub_mul_pow 2 (fracBits_le e f.S)]; exact mul_add_lt h.si_lt h.sf_lt

theorem fval_lt {e : Int} {si sf : Nat} (h : PartsOK f e si sf) : fval f e si sf < 2 ^ (f.S + f.E) := by
  rw [Nat.pow_add, Nat.mul_comm]; exact mul_add_lt h.e_hi (sig_lt f h)

theorem partsLe_iff {p q : Int × UInt64 × UInt64} (hp : PartsOK f p.1 p.2.1.toNat p.2.2.toNat)
    (hq : PartsOK f q.1 q.2.1.toNat q.2.2.toNat) :
    PartsLe p q ↔ fval f p.1 p.2.1.toNat p.2.2.toNat ≤ fval f q.1 q.2.1.toNat q.2.2.toNat := by
  obtain ⟨e, si, sf⟩ := p
  obtain ⟨e', si', sf'⟩ := q
  have ha : (e + f.bias).toNat ≤ (e' + f.bias).toNat ↔ e ≤ e' := by
    rw [← Int.ofNat_le, Int.toNat_of_nonneg hp.e_lo, Int.toNat_of_nonneg hq.e_lo, Int.add_le_add_iff_right]
  have hb : (e + f.bias).toNat = (e' + f.bias).toNat ↔ e = e' := by
    rw [← Int.ofNat_inj, Int.toNat_of_nonneg hp.e_lo, Int.toNat_of_nonneg hq.e_lo, Int.add_left_inj]
  simp only [PartsLe, fval, UInt64.le_iff_toNat_le, ← UInt64.toNat_inj]
  rw [pair_le_iff (sig_lt f hp) (sig_lt f hq), ha, hb]
  refine and_congr_right fun _ => imp_congr_right fun he => ?_
  subst he
  exact (pair_le_iff hp.sf_lt hq.sf_lt).symm

theorem FFmt.key_eq (b : UInt64) : f.key b = K (f.isNeg b) (f.mag b).toNat := rfl

theorem FFmt.key_zero : f.key 0 = 0 := by
  simp [FFmt.key, FFmt.mag, FFmt.isNeg]

/-! The comparisons of floats.go are comparisons of keys, and a magnitude is the absolute value of the key: what
    `genFloatRange` does with the signs of its bounds is linear arithmetic on their keys. -/

theorem FFmt.natAbs_key (b : UInt64) : (f.key b).natAbs = (f.mag b).toNat := by
  rw [f.key_eq, K]; split <;> omega

theorem FFmt.ge0_iff (b : UInt64) : f.ge0 b = true ↔ 0 ≤ f.key b := by
  rw [f.key_eq, FFmt.ge0, u64_beq_zero, K]
  cases f.isNeg b <;> simp <;> omega

theorem FFmt.le0_iff (b : UInt64) : f.le0 b = true ↔ f.key b ≤ 0 := by
  rw [f.key_eq, FFmt.le0, u64_beq_zero, K]
  cases f.isNeg b <;> simp <;> omega

theorem FFmt.fle_iff (a b : UInt64) : f.fle a b = true ↔ f.key a ≤ f.key b := decide_eq_true_iff

theorem FFmt.key_eq_mag {b : UInt64} (h : 0 ≤ f.key b) : f.key b = ((f.mag b).toNat : Int) := by
  have := f.natAbs_key b; omega

theorem FFmt.not_isNaN_iff (b : UInt64) :
    f.isNaN b = false ↔ -(f.inf.toNat : Int) ≤ f.key b ∧ f.key b ≤ f.inf.toNat := by
  rw [FFmt.isNaN, decide_eq_false_iff_not, UInt64.not_lt, UInt64.le_iff_toNat_le, ← f.natAbs_key]; omega

theorem floatRangeOK_iff (a b : UInt64) :
    floatRangeOK f a b = true ↔ f.isNaN a = false ∧ f.isNaN b = false ∧ f.key a ≤ f.key b := by
  simp only [floatRangeOK, Bool.and_eq_true, Bool.not_eq_true', f.fle_iff, and_assoc]

variable (hf : f.WF)
include hf

theorem FFmt.bias_succ : f.bias + 1 = 2 ^ (f.E - 1) := by
  have := hf.hSE
  rw [FFmt.bias, bitmask64_toNat (by omega)]; exact Nat.sub_add_cancel (Nat.two_pow_pos _)

theorem FFmt.bias_le : f.bias + 1 ≤ 2 ^ 62 := by
  rw [f.bias_succ hf]; exact Nat.pow_le_pow_right Nat.two_pos (by have := hf.hSE; omega)

theorem FFmt.mag_toNat (b : UInt64) : (f.mag b).toNat = b.toNat % 2 ^ (f.S + f.E) :=
  and_mask_toNat b hf.hSE

theorem FFmt.mag_lt (b : UInt64) : (f.mag b).toNat < 2 ^ (f.S + f.E) := by
  rw [f.mag_toNat hf]; exact Nat.mod_lt _ (Nat.two_pow_pos _)

/-- exponents range from `-bias` (`PartsOK.e_lo`) to `bias + 1` -/
theorem exp_le {e : Int} {si sf : Nat} (h : PartsOK f e si sf) : e ≤ f.bias + 1 := by
  have hE : 2 ^ f.E = 2 * (f.bias + 1) := by
    rw [f.bias_succ hf, ← Nat.pow_succ', Nat.succ_eq_add_one, Nat.sub_add_cancel hf.hE]
  have := (Int.toNat_lt h.e_lo).mp h.e_hi
  omega

theorem ofInt_exp {e : Int} {si sf : Nat} (h : PartsOK f e si sf) : (Int64.ofInt e).toInt = e := by
  have := f.bias_le hf
  exact Int64.toInt_ofInt_of_le (by have := h.e_lo; omega) (by have := exp_le f hf h; omega)

theorem parts_ok (t : UInt64) :
    PartsOK f (f.parts t).1 (f.parts t).2.1.toNat (f.parts t).2.2.toNat ∧
    fval f (f.parts t).1 (f.parts t).2.1.toNat (f.parts t).2.2.toNat = (f.mag t).toNat := by
  have hS := hf.hS
  have hn : fracBits (f.parts t).1 f.S ≤ f.S := fracBits_le _ _
  have hW : 0 < 2 ^ f.S := Nat.two_pow_pos _
  -- with `u` the magnitude and `n` the fraction bits: `u / 2^S - bias`, then quotient and remainder of `u % 2^S` by `2^n`
  have he : (f.parts t).1 + f.bias = ((f.mag t).toNat / 2 ^ f.S : Nat) := by
    rw [← shr_toNat _ hS]; exact Int.sub_add_cancel _ _
  have hsi : (f.parts t).2.1.toNat = (f.mag t).toNat % 2 ^ f.S / 2 ^ fracBits (f.parts t).1 f.S := by
    rw [← and_mask_toNat _ hS, ← shr_toNat _ (by omega)]; rfl
  have hsf : (f.parts t).2.2.toNat = (f.mag t).toNat % 2 ^ f.S % 2 ^ fracBits (f.parts t).1 f.S := by
    rw [← and_mask_toNat _ hS, ← and_mask_toNat _ (by omega)]; rfl
  refine ⟨⟨he ▸ Int.natCast_nonneg _, ?_, ?_, hsf ▸ Nat.mod_lt _ (Nat.two_pow_pos _)⟩, ?_⟩
  · rw [he, Int.toNat_natCast]
    apply Nat.div_lt_of_lt_mul; rw [← Nat.pow_add]; exact f.mag_lt hf t
  · rw [hsi]; apply Nat.div_lt_of_lt_mul
    rw [Nat.mul_comm, Nat.pow_sub_mul_pow 2 hn]; exact Nat.mod_lt _ hW
  · rw [fval, he, hsi, hsf, Int.toNat_natCast, Nat.div_add_mod', Nat.div_add_mod']

theorem ufromParts_toNat {e : Int} {si sf : UInt64} (hok : PartsOK f e si.toNat sf.toNat) :
    (f.ufromParts e si sf).toNat = fval f e si.toNat sf.toNat := by
  have hSE := hf.hSE
  have hn : fracBits e f.S ≤ f.S := fracBits_le _ _
  have hval : (e + f.bias).toNat * 2 ^ f.S + (si.toNat * 2 ^ fracBits e f.S + sf.toNat) < 2 ^ 64 :=
    Nat.lt_trans (fval_lt f hok) (Nat.pow_lt_pow_right (by decide) hSE)
  -- the exponent word does not wrap; the fields of the significand word, and then of the whole, do not overlap
  have hx : ((Int64.ofInt e).toUInt64 + bitmask64 (f.E - 1)).toNat = (e + f.bias).toNat :=
    ofInt_add_toNat e _ hok.e_lo (by have := exp_le f hf hok; have := f.bias_le hf; show e + (f.bias : Int) < 2 ^ 63; omega)
  have hs : ((si <<< (fracBits e f.S).toUInt64) ||| sf).toNat = si.toNat * 2 ^ fracBits e f.S + sf.toNat :=
    or_toNat_of_shl _ _ (by omega) hok.sf_lt (Nat.lt_of_le_of_lt (Nat.le_add_left _ _) hval)
  have hall : ((((Int64.ofInt e).toUInt64 + bitmask64 (f.E - 1)) <<< f.S.toUInt64) |||
      ((si <<< (fracBits e f.S).toUInt64) ||| sf)).toNat = fval f e si.toNat sf.toNat := by
    rw [or_toNat_of_shl _ _ (by omega) (hs ▸ sig_lt f hok) (by rw [hx, hs]; exact hval), hx, hs]; rfl
  -- and the whole fits the width of the format
  show (mask (1 + f.E + f.S) _).toNat = _
  rw [mask_of_lt _ _ (by rw [hall]; exact Nat.lt_of_lt_of_le (fval_lt f hok) (Nat.pow_le_pow_right Nat.two_pos (by omega))), hall]

theorem FFmt.signBit_toNat : f.signBit.toNat = 2 ^ (f.S + f.E) :=
  one_shl_toNat hf.hSE

theorem FFmt.isNeg_iff (b : UInt64) : f.isNeg b = b.toNat.testBit (f.S + f.E) := by
  rw [FFmt.isNeg, bne, u64_beq_zero, UInt64.toNat_and, f.signBit_toNat hf]
  simp [and_two_pow_eq_zero]

theorem FFmt.mag_fneg (b : UInt64) : f.mag (f.fneg b) = f.mag b := by
  apply UInt64.toNat_inj.mp
  rw [f.mag_toNat hf, f.mag_toNat hf]
  simp only [FFmt.fneg, UInt64.toNat_xor, f.signBit_toNat hf]
  rw [Nat.xor_mod_two_pow, Nat.mod_self, Nat.xor_zero]

theorem FFmt.isNaN_fneg (b : UInt64) : f.isNaN (f.fneg b) = f.isNaN b := by
  rw [FFmt.isNaN, f.mag_fneg hf]; rfl

theorem FFmt.isNeg_fneg (b : UInt64) : f.isNeg (f.fneg b) = !f.isNeg b := by
  rw [f.isNeg_iff hf, f.isNeg_iff hf]
  simp only [FFmt.fneg, UInt64.toNat_xor, f.signBit_toNat hf, Nat.testBit_xor, Nat.testBit_two_pow_self]
  cases b.toNat.testBit (f.S + f.E) <;> rfl

theorem FFmt.isNeg_of_lt {u : UInt64} (hu : u.toNat < 2 ^ (f.S + f.E)) : f.isNeg u = false := by
  rw [f.isNeg_iff hf]; exact Nat.testBit_lt_two_pow hu

theorem FFmt.mag_of_lt {u : UInt64} (hu : u.toNat < 2 ^ (f.S + f.E)) : f.mag u = u := by
  apply UInt64.toNat_inj.mp; rw [f.mag_toNat hf]; exact Nat.mod_eq_of_lt hu

theorem FFmt.key_fneg (b : UInt64) : f.key (f.fneg b) = - f.key b := by
  simp only [FFmt.key, f.mag_fneg hf, f.isNeg_fneg hf]
  cases f.isNeg b <;> simp

end

end Rapid
