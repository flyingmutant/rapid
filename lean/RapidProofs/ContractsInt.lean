/-
  RapidProofs.ContractsInt — `flipBiasedCoin` and `genIntRange`: the sign split, the magnitudes and the negation
  (including `-MinInt64`) hand on a value inside `[min, max]`, for every bit source.
-/
import RapidProofs.Contracts

namespace Rapid

theorem spec_coin (thr : UInt64) :
    Spec true (coin thr) (fun b => (b = true → thr ≠ thrNever) ∧ (b = false → thr ≠ thrAlways)) :=
  Spec.drawGroup fun u hu => Spec.ret (by
    rw [bool_beq_vTrue]
    constructor
    · rintro hb rfl
      exact UInt64.not_lt.mpr (of_decide_eq_true hb) (hu ▸ mask53_lt u)
    · rintro hb rfl
      exact of_decide_eq_false hb UInt64.zero_le)

/-- the sign coin of `genIntRange` and `genFloatRange`: it cannot come up negative when `c1` (the range is
    non-negative) and cannot come up non-negative when `c2` and not `c1` (the range is non-positive) -/
theorem Spec.signCoin {α : Type} {P : α → Prop} (half : UInt64) (c1 c2 : Prop) [Decidable c1] [Decidable c2]
    {q : Bool → (α → Prog) → Prog} (hpos : c1 ∨ ¬ c2 → Spec true (q false) P) (hneg : ¬ c1 → Spec true (q true) P) :
    Spec true (fun k => coin (if c1 then thrNever else if c2 then thrAlways else half) fun neg => q neg k) P := by
  refine Spec.bind (s' := true) (spec_coin _) ?_
  rintro (_ | _) ⟨h1, h2⟩
  · refine hpos ?_
    by_cases hc1 : c1
    · exact Or.inl hc1
    · refine Or.inr fun hc2 => h2 rfl ?_
      simp [hc1, hc2]
  · refine hneg fun hc1 => h1 rfl ?_
    simp [hc1]

theorem i64_toInt (x : Int64) : x.toInt = x.toBitVec.toInt := rfl

/-- the least magnitude of the non-negative branch, and of the negative one, as integers -/
theorem i64_posLo_cast (min : Int64) :
    ((if min ≥ 0 then min.toUInt64 else 0).toNat : Int) = if 0 ≤ min.toInt then min.toInt else 0 := by
  simp only [ge_iff_le, Int64.le_iff_toInt_le, Int64.toInt_zero]
  split
  · exact i64_toUInt64_cast ‹_›
  · rfl

theorem i64_negLo_cast (max : Int64) :
    ((if max ≤ 0 then (-max).toUInt64 else 1).toNat : Int) = if max.toInt ≤ 0 then -max.toInt else 1 := by
  simp only [Int64.le_iff_toInt_le, Int64.toInt_zero]
  split
  · exact i64_neg_toUInt64_cast ‹_›
  · rfl

theorem i64_pos_branch {min max : Int64} {lo : UInt64} (hlo : (lo.toNat : Int) = if 0 ≤ min.toInt then min.toInt else 0)
    (hmm : min ≤ max) (hc : min ≥ 0 ∨ ¬ max ≤ 0) :
    lo ≤ max.toUInt64 ∧ ∀ u : UInt64, lo ≤ u → u ≤ max.toUInt64 → min ≤ u.toInt64 ∧ u.toInt64 ≤ max := by
  simp only [ge_iff_le, Int64.le_iff_toInt_le, Int64.toInt_zero, UInt64.le_iff_toNat_le] at hmm hc ⊢
  have hM := i64_toUInt64_cast (x := max) (by omega)
  have := max.toInt_lt
  refine ⟨by omega, fun u h1 h2 => ?_⟩
  rw [u64_toInt64_toInt (by omega)]; omega

/-- the negative branch: magnitudes from `-max` (or 1) to `-min`, negated; `-min` may be `MinInt64` itself -/
theorem i64_neg_branch {min max : Int64} {lo : UInt64} (hlo : (lo.toNat : Int) = if max.toInt ≤ 0 then -max.toInt else 1)
    (hmm : min ≤ max) (hc : ¬ min ≥ 0) :
    lo ≤ (-min).toUInt64 ∧ ∀ u : UInt64, lo ≤ u → u ≤ (-min).toUInt64 → min ≤ -u.toInt64 ∧ -u.toInt64 ≤ max := by
  simp only [ge_iff_le, Int64.le_iff_toInt_le, Int64.toInt_zero, UInt64.le_iff_toNat_le] at hmm hc ⊢
  have hm := i64_neg_toUInt64_cast (x := min) (by omega)
  have := min.le_toInt
  refine ⟨by omega, fun u h1 h2 => ?_⟩
  rw [u64_neg_toInt64_toInt (by omega)]; omega

theorem spec_intRange (ft : FT) (min max : Int64) (fuel : Nat) (hmm : min ≤ max) :
    Spec true (fun k => intRange ft min max fuel (fun i l r => k (i, l, r)))
      (fun x => (min ≤ x.1 ∧ x.1 ≤ max) ∧ FlagsOK min max x) := by
  simp only [intRange, Int64.not_lt.mpr hmm, if_false]
  refine Spec.signCoin _ _ _ (fun hc => ?_) (fun hc => ?_)
  · obtain ⟨hle, hin⟩ := i64_pos_branch (i64_posLo_cast min) hmm hc
    simp only [Bool.false_eq_true, if_false]
    refine ((spec_uintRange ft _ _ true fuel hle).map fun x => (x.1.toInt64, x.2.1 && decide (min ≥ 0), x.2.2)).mono ?_
    rintro _ ⟨x, ⟨⟨h1, h2⟩, hl, hr⟩, rfl⟩
    refine ⟨hin _ h1 h2, fun h => ?_, fun h => ?_⟩
    · simp only [Bool.and_eq_true, decide_eq_true_eq] at h
      show x.1.toInt64 = min
      rw [hl h.1, if_pos h.2, Int64.toInt64_toUInt64]
    · show x.1.toInt64 = max
      rw [hr h, Int64.toInt64_toUInt64]
  · obtain ⟨hle, hin⟩ := i64_neg_branch (i64_negLo_cast max) hmm hc
    simp only [if_true, if_neg hc]
    refine ((spec_uintRange ft _ _ true fuel hle).map fun x => (-x.1.toInt64, x.2.2, x.2.1 && decide (max ≤ 0))).mono ?_
    rintro _ ⟨x, ⟨⟨h1, h2⟩, hl, hr⟩, rfl⟩
    refine ⟨hin _ h1 h2, fun h => ?_, fun h => ?_⟩
    · show -x.1.toInt64 = min
      rw [hr h, Int64.toInt64_toUInt64, Int64.neg_neg]
    · simp only [Bool.and_eq_true, decide_eq_true_eq] at h
      show -x.1.toInt64 = max
      rw [hl h.1, if_pos h.2, Int64.toInt64_toUInt64, Int64.neg_neg]

end Rapid
