/-
  RapidProofs.ContractsGen — contracts of the collection generators (SliceOf*, MapOf*, StringOf*): whatever the
  bit source, a collection that is produced has between `minLen` and `maxLen` elements (runes, entries) and keeps
  every invariant of the accumulator that appending an accepted element preserves (`repeat_collect`).  Then:
  `StringOfN` respects the byte-length limit and is made of valid runes only; the keys of `MapOfN`
  are pairwise distinct; `Permutation` returns a permutation of its input.
-/
import RapidProofs.ContractsRepeat
import RapidProofs.PruneGen

namespace Rapid

theorem Val.length_snoc (a x : Val) : (a.snoc x).length = a.length + 1 := by
  induction a with
  | cons _ _ _ ih => exact congrArg (· + 1) ih
  | _ => rfl

/-- what a step of a collection loop returns from the accumulator `acc`: a rejection, or `acc` with one element appended,
    and appending that element keeps the invariant `I` -/
def Collects (I : Val → Prop) (acc r : Val) : Prop :=
  r = rRej ∨ ∃ x, r = rAcc (acc.snoc x) ∧ (I acc → I (acc.snoc x))

/-- The lemma the collection contracts go through: the length bounds are `reaches_repeatLoop_inv` at `m := Val.length`,
    read off a run that returned. -/
theorem repeat_collect (c : RCfg) (hmm : c.minC ≤ c.maxC) (step : Val → Prog) (I : Val → Prop)
    (hstep : ∀ acc src ts r, ((step acc).run src ts).res = .ok r → Collects I acc r)
    (hI0 : I .nil) (fuel : Nat) (src : Src) (ts : TS) (v : Val)
    (h : ((repeatLoop c step .ret fuel {} .nil).run src ts).res = .ok v) :
    (c.minC ≤ v.length ∧ v.length ≤ c.maxC) ∧ I v := by
  obtain ⟨a, ⟨h1, h2, hI⟩, _, _, hv⟩ := (reaches_repeatLoop_inv c hmm step
    (fun acc src ts r hr => (hstep acc src ts r hr).imp id fun ⟨x, hx, _⟩ => ⟨_, hx⟩) Val.length I
    (fun acc src ts a hI _ hr => by
      rcases hstep acc src ts _ hr with h | ⟨x, hx, hIx⟩
      · cases h
      · cases hx; exact ⟨Val.length_snoc acc x, hIx hI⟩)
    fuel {} .nil (Nat.zero_le _) rfl hI0).res h
  cases ret_ok hv; exact ⟨⟨h1, h2⟩, hI⟩

theorem repeat_collect_elem (c : RCfg) (hmm : c.minC ≤ c.maxC) (el : Prog) (g : Val → Val → Val) (I : Val → Prop)
    (hg : ∀ acc w, Collects I acc (g acc w))
    (hI0 : I .nil) (fuel : Nat) (src : Src) (ts : TS) (v : Val)
    (h : ((repeatLoop c (fun acc => el >>- fun w => .ret (g acc w)) .ret fuel {} .nil).run src ts).res = .ok v) :
    (c.minC ≤ v.length ∧ v.length ≤ c.maxC) ∧ I v :=
  repeat_collect c hmm _ I (fun acc src ts r hr => by
    obtain ⟨w, rfl⟩ := bind_ret_res el (g acc) src ts r hr
    exact hg acc w) hI0 fuel src ts v h

theorem rej_or_snoc {I : Val → Prop} (acc x : Val) (c : Prop) [Decidable c] (h : ¬ c → I acc → I (acc.snoc x)) :
    Collects I acc (if c then rRej else rAcc (acc.snoc x)) := by
  by_cases hc : c
  · exact Or.inl (if_pos hc)
  · exact Or.inr ⟨x, if_neg hc, h hc⟩

/-- no two elements of the chain have the same key -/
def Val.distinctBy (key : Val → Val) : Val → Prop
  | .cons h t => Val.hasKey key t (key h) = false ∧ Val.distinctBy key t
  | _ => True

theorem Val.hasKey_snoc (key : Val → Val) (a x k : Val) : Val.hasKey key (a.snoc x) k = (Val.hasKey key a k || key x == k) := by
  induction a with
  | cons h t _ ih =>
    show (key h == k || Val.hasKey key (t.snoc x) k) = ((key h == k || Val.hasKey key t k) || key x == k)
    rw [ih, Bool.or_assoc]
  | _ =>
    show (key x == k || false) = (false || key x == k)
    rw [Bool.or_false, Bool.false_or]

theorem Val.distinctBy_snoc (key : Val → Val) (a x : Val) (hd : Val.distinctBy key a) (hk : Val.hasKey key a (key x) = false) :
    Val.distinctBy key (a.snoc x) := by
  induction a with
  | cons h t _ ih =>
    have hk : (key h == key x) = false ∧ Val.hasKey key t (key x) = false := Bool.or_eq_false_iff.mp hk
    refine ⟨?_, ih hd.2 hk.2⟩
    rw [Val.hasKey_snoc, hd.1, Bool.false_or, BEq.comm]
    exact hk.1
  | _ => exact ⟨rfl, trivial⟩

theorem filter_pred (e : Env) (lab : Bool) (g : Gen) (p : Val → Bool) (src : Src) (ts : TS) (v : Val)
    (h : (((Gen.filter g p).body e lab).run src ts).res = .ok v) : p v = true := by
  obtain ⟨r, ⟨hok, s0, t0, hb⟩, s', t', hk⟩ := (reaches_findLoop _ _ 5).res h
  obtain ⟨w, rfl⟩ := bind_ret_res _ (fun v => if p v then Val.cons v .nil else .nil) s0 t0 r hb
  by_cases hp : p w = true
  · rw [if_pos hp] at hk
    rw [← ret_ok hk]; exact hp
  · rw [if_neg hp] at hok
    cases hok

/-- every element is a rune with a UTF-8 encoding (no surrogate, not out of range) -/
def Val.allRunes : Val → Prop
  | .cons (.int r) t => (runeLen r).isSome = true ∧ Val.allRunes t
  | .cons _ _ => False
  | _ => True

theorem Val.byteLen_snoc_int (a : Val) (r : Int) : (a.snoc (.int r)).byteLen = a.byteLen + (runeLen r).getD 0 := by
  induction a with
  | cons h t _ ih =>
    cases h with
    | int q =>
      show (runeLen q).getD 0 + (t.snoc (.int r)).byteLen = (runeLen q).getD 0 + t.byteLen + (runeLen r).getD 0
      rw [ih, Nat.add_assoc]
    | _ => exact ih
  | _ => exact (Nat.zero_add _).symm

theorem Val.allRunes_snoc (a : Val) (r : Int) (h : Val.allRunes a) (hr : (runeLen r).isSome = true) :
    Val.allRunes (a.snoc (.int r)) := by
  induction a with
  | cons x t _ ih =>
    cases x with
    | int q => exact ⟨h.1, ih h.2⟩
    | _ => exact h.elim
  | _ => exact ⟨hr, trivial⟩

/-- **`StringOfN(elem, minRunes, maxRunes, maxLen)`**: between `minRunes` and `maxRunes` runes, at most `maxLen` bytes,
    and every rune has a UTF-8 encoding (the string is valid UTF-8), whatever the element generator yields -/
theorem stringOf_all (e : Env) (lab : Bool) (elem : Gen) (lo hi ml : Int) (hmm : normMin lo ≤ normMax hi)
    (src : Src) (ts : TS) (v : Val) (h : (((Gen.stringOf elem lo hi ml).body e lab).run src ts).res = .ok v) :
    (normMin lo ≤ v.length ∧ v.length ≤ normMax hi) ∧ v.byteLen ≤ normMax ml ∧ v.allRunes :=
  repeat_collect_elem ⟨normMin lo, normMax hi, _, _⟩ hmm _
    (fun acc w => match w with
      | .int r => match runeLen r with
        | some n => if acc.byteLen + n > normMax ml then rRej else rAcc (acc.snoc w)
        | none => rRej
      | _ => rRej)
    (fun a => a.byteLen ≤ normMax ml ∧ a.allRunes)
    (fun acc w => by
      split
      · rename_i r
        split
        · rename_i n hrl
          refine rej_or_snoc acc _ _ fun hb hI =>
            ⟨?_, Val.allRunes_snoc acc r hI.2 (by simp [hrl])⟩
          rw [Val.byteLen_snoc_int, hrl]; exact Nat.le_of_not_gt hb
        · exact Or.inl rfl
      · exact Or.inl rfl)
    ⟨Nat.zero_le _, trivial⟩ _ src ts v h

def entryKey : Val → Val
  | .cons k' _ => k'
  | x => x

theorem mapOfValues_size_and_keys (e : Env) (lab : Bool) (vg : Gen) (lo hi : Int) (key : Val → Val) (hmm : normMin lo ≤ normMax hi)
    (src : Src) (ts : TS) (v : Val) (h : (((Gen.mapOfValues vg lo hi key).body e lab).run src ts).res = .ok v) :
    (normMin lo ≤ v.length ∧ v.length ≤ normMax hi) ∧ Val.distinctBy entryKey v :=
  repeat_collect_elem ⟨normMin lo, normMax hi, _, _⟩ hmm _
    (fun acc w => if acc.hasKey entryKey (key w) then rRej else rAcc (acc.snoc (.cons (key w) w)))
    (Val.distinctBy entryKey)
    (fun acc _ => rej_or_snoc acc _ _ fun hk hI => Val.distinctBy_snoc entryKey acc _ hI (Bool.eq_false_iff.mpr hk)) trivial _ src ts v h

theorem swapAt_perm (l : List Val) (i j : Nat) (hi : i < l.length) (hj : j < l.length) : (swapAt l i j).Perm l := by
  have hgi : l.getD i .nil = l[i] := by simp [List.getD, hi]
  have hgj : l.getD j .nil = l[j] := by simp [List.getD, hj]
  rw [swapAt, hgi, hgj]
  exact List.set_set_perm hi hj

theorem Val.toList_ofList : ∀ l : List Val, (Val.ofList l).toList = l
  | [] => rfl
  | x :: xs => congrArg (x :: ·) (Val.toList_ofList xs)

/-- the accumulator of `Permutation`'s loop: position and the slice so far -/
def permAcc (init : List Val) (acc : Val) : Prop :=
  ∃ (i : Nat) (sl : Val), acc = .cons (.int i) sl ∧ sl.toList.Perm init

def permCount : Val → Nat
  | .cons (.int i) _ => i.toNat
  | _ => 0

/-- **`Permutation(slice)`**: the value is a permutation of the input (the model's input is
    `0, 1, …, n-1`; the real generator applies the same swaps to a copy of the user's slice) -/
theorem perm_is_permutation (e : Env) (lab : Bool) (n : Nat) (hn : n ≤ 2 ^ 63) (src : Src) (ts : TS) (v : Val)
    (h : (((Gen.perm n).body e lab).run src ts).res = .ok v) :
    v.toList.Perm ((List.range n).map fun (i : Nat) => Val.int (Int.ofNat i)) := by
  let init : List Val := (List.range n).map fun (i : Nat) => Val.int (Int.ofNat i)
  have hlen : init.length = n := by simp [init]
  -- a step is only run below the maximal count `n - 1`: the position `i` and the drawn `j ≥ i` are inside the slice
  have hstep : ∀ acc src ts a, permAcc init acc → permCount acc < n - 1 → ((permStep e n acc).run src ts).res = .ok (rAcc a) →
      permCount a = permCount acc + 1 ∧ permAcc init a := by
    rintro acc src ts a ⟨i, sl, rfl, hperm⟩ (hi : i < n - 1) hr
    obtain ⟨j, hj1, hj2, hra⟩ := permStep_res hr
    simp only [rAcc, Val.cons.injEq, true_and, Int.toNat_natCast] at hra hj1
    subst hra
    rw [UInt64.le_iff_toNat_le, UInt64.toNat_ofNat_of_lt' (by simp [UInt64.size]; omega)] at hj1 hj2
    have hsl : sl.toList.length = n := by rw [hperm.length_eq, hlen]
    refine ⟨by simp [permCount], i + 1, _, rfl, ?_⟩
    rw [Val.toList_ofList]
    exact (swapAt_perm sl.toList i j.toNat (by omega) (by omega)).trans hperm
  obtain ⟨_, ⟨_, _, i, sl, rfl, hperm⟩, _, _, hv⟩ := (reaches_repeatLoop_inv ⟨0, n - 1, e.rt.perm, "permute"⟩ (Nat.zero_le _)
    (permStep e n) (fun acc src ts r hr => Or.inr (permStep_acc hr)) permCount (permAcc init) hstep e.fuel {}
    (.cons (.int 0) (Val.ofList init)) (Nat.zero_le _) rfl ⟨0, _, rfl, by rw [Val.toList_ofList]⟩).res h
  rw [← ret_ok hv]; exact hperm

end Rapid
