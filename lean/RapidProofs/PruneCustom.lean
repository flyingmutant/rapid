/-
  RapidProofs.PruneCustom — L-PS for `Custom` generators.

  `Custom(fn)` runs `fn` on a fresh inner `*T` (`customGen.maybeValue`), swallows invalid data and
  retries up to five times; the bits of a rejected attempt are discarded.  The pruned recording
  replays when a rejected attempt leaves nothing behind on the parent `*T`: the function must not
  signal a non-fatal failure (the known finding D8 is exactly a function that does) and its
  cleanups must neither fail nor panic.  `CustomOK` states what is needed of the function, as a
  program over the inner `*T`; `QuietProgOver` is a syntactic class of such programs, whose
  generators may again be Custom, for which `CustomOK` is proved.
-/
import RapidProofs.Cleanups
import RapidProofs.PruneGen

namespace Rapid

def customEnc : Option Val → Val
  | some v => .cons v .nil
  | none => .nil

/-- one attempt of `Custom`: `maybeValue` -/
def customTry (body : Prog) : Prog := .inner (.catchInv body fun o _ => .ret (customEnc o)) .ret

/-- what prune stability needs of a Custom function (a program over the fresh inner `*T`) -/
structure CustomOK (body : Prog) : Prop where
  ps : ∀ (src : Src) (xs : List UInt64), Good (body.run src TS.fresh) → ((body.run src TS.fresh).overran = true → xs = []) →
    Replayed (body.run src TS.fresh) (body.run (.buf ((body.run src TS.fresh).kept ++ xs)) TS.fresh) xs
  /-- its cleanups do not panic and nothing signals a non-fatal failure -/
  quiet : ∀ (src : Src), (cleanupPhase (body.run src TS.fresh).ts).err = none ∧
    (cleanupPhase (body.run src TS.fresh).ts).ts.failed = none
  keeps : ∀ (src : Src) (v : Val), (body.run src TS.fresh).res = .ok v → (body.run src TS.fresh).used ≠ [] →
    (body.run src TS.fresh).kept ≠ []

theorem customTry_run {body : Prog} (h : CustomOK body) (src : Src) (ts : TS) :
    (customTry body).run src ts =
      { body.run src TS.fresh with
        res := (match (body.run src TS.fresh).res with
          | .ok v => .ok (.cons v .nil)
          | .error (.invalid _) => .ok .nil
          | .error e => .error e),
        ts := ts, evs := innerEvs (body.run src TS.fresh) } := by
  obtain ⟨hq1, hq2⟩ := h.quiet src
  simp only [customTry, Prog.run]
  cases hres : (body.run src TS.fresh).res with
  | ok v =>
    simp only [after_ts, Out.ofRes, hq1, hq2, after_res, customEnc]
    simp [Out.after, innerEvs]
  | error e =>
    cases e with
    | invalid m =>
      simp only [after_ts, Out.ofRes, hq1, hq2, after_res, customEnc]
      simp [Out.after, innerEvs]
    | stop _ _ | panic _ _ | fuel => simp [hq1, hq2, hres, innerEvs]

theorem tp_customTry {body : Prog} (h : CustomOK body) : TsPure (customTry body) :=
  fun src ts => congrArg Out.ts (customTry_run h src ts)

theorem rep_customTry {body : Prog} (h : CustomOK body) : RepBy (fun v => (v != .nil) = true) (customTry body) (customTry body) := by
  intro src ts xs hg hacc ho
  rw [customTry_run h src ts] at hg hacc ho ⊢
  rw [customTry_run h]
  have hgb : Good (body.run src TS.fresh) := by
    intro e he
    cases e with
    | invalid m => simpa [he] using hacc .nil
    | stop _ _ | panic _ _ | fuel => exact hg _ (by simp [he])
  have rb := h.ps src xs hgb ho
  exact ⟨by dsimp only; rw [rb.res], rb.src, rfl, rb.used, rb.kept⟩

theorem keeps_customTry {body : Prog} (h : CustomOK body) : KeepsOn (fun v => (v != .nil) = true) (customTry body) := by
  intro src ts v hres hacc hu
  rw [customTry_run h] at hres hu ⊢
  cases hb : (body.run src TS.fresh).res with
  | ok w => exact h.keeps src w hb hu
  | error e =>
    rw [hb] at hres
    cases e with
    | invalid m => cases hres; simp at hacc
    | stop _ _ | panic _ _ | fuel => cases hres

theorem ok_custom (e : Env) (lab : Bool) {body : Prog} (h : CustomOK body) (hb : GK body) : GenOK (Gen.body e lab (.custom body)) :=
  ok_findLoop (body := customTry body) (rep_customTry h) (tp_customTry h) (.inner _ _ (.catchInv _ _ hb fun _ _ => .ret _) fun _ => .ret _)
    (keeps_customTry h) (fun r => by split <;> exact tame_ret) 5

/-- cleanup callbacks that neither fail nor panic -/
inductive QuietC : CTree → Prop
  | done : QuietC .done
  | emit (id : Nat) (k : CTree) : QuietC k → QuietC (.emit id k)
  | reg (c k : CTree) : QuietC c → QuietC k → QuietC (.reg c k)
  | ctx (k : CTree) : QuietC k → QuietC (.ctx k)

def QuietTS (ts : TS) : Prop := ts.failed = none ∧ ∀ c ∈ ts.cleanups, QuietC c

theorem QuietTS.push {ts : TS} (h : QuietTS ts) {c : CTree} (hc : QuietC c) : QuietTS { ts with cleanups := c :: ts.cleanups } :=
  ⟨h.1, List.forall_mem_cons.mpr ⟨hc, h.2⟩⟩

theorem quietC_run {c : CTree} (hc : QuietC c) : ∀ (ts : TS), QuietTS ts → (c.run ts).err = none ∧ QuietTS (c.run ts).ts := by
  induction hc with
  | done => intro ts h; exact ⟨rfl, h⟩
  | emit id k _ ih => intro ts h; exact ih ts h
  | reg c k hc _ _ ih => intro ts h; exact ih _ (h.push hc)
  | ctx k _ ih => intro ts h; exact ih { ts with ctxCount := ts.ctxCount + 1 } h

theorem runStack_quiet (fuel : Nat) (ts : TS) (h : QuietTS ts) :
    (runStack fuel ts).err = none ∧ (runStack fuel ts).ts.failed = none := by
  fun_induction runStack fuel ts with
  | case1 | case2 => exact ⟨rfl, h.1⟩
  | case3 _ ts c rest hc o1 _ ih =>
    obtain ⟨hcq, hrest⟩ := List.forall_mem_cons.mp (hc ▸ h.2)
    obtain ⟨h1, h2⟩ := quietC_run hcq { ts with cleanups := rest } ⟨h.1, hrest⟩
    obtain ⟨h3, h4⟩ := ih h2
    exact ⟨by rw [h3, h1]; rfl, h4⟩

theorem cleanupPhase_quiet {ts : TS} (h : QuietTS ts) : (cleanupPhase ts).err = none ∧ (cleanupPhase ts).ts.failed = none := by
  rw [cleanupPhase_eq]
  exact runStack_quiet _ _ h

/-- Custom functions: draws of generators that satisfy `G`, branching on what was drawn, Skip,
    panics, events, contexts, quiet cleanups — and no `T.Error*/Fatal*` -/
inductive QuietProgOver (e : Env) (G : Gen → Prop) : Prog → Prop
  | ret (v : Val) : QuietProgOver e G (.ret v)
  | skip (m : String) : QuietProgOver e G (.throw (.invalid m))
  | panic (m : String) (s : Nat) : QuietProgOver e G (.throw (.panic m s))
  | draw (g : Gen) (k : Val → Prog) : G g → (∀ v, QuietProgOver e G (k v)) → QuietProgOver e G (g.draw e k)
  | emit (id : Nat) (k : Prog) : QuietProgOver e G k → QuietProgOver e G (.emit id k)
  | ctx (k : Prog) : QuietProgOver e G k → QuietProgOver e G (.ctx k)
  | cleanup (c : CTree) (k : Prog) : QuietC c → QuietProgOver e G k → QuietProgOver e G (.cleanup c k)

/-- what `CustomOK` asks, for every state of the `*T` -/
structure QuietOK (p : Prog) : Prop where
  ps : PS p
  gk : GK p
  keeps : KeepsSome p
  ts : ∀ (src : Src) (ts : TS), QuietTS ts → QuietTS (p.run src ts).ts

theorem StepOf.quietOK {f : TS → TS} {p k : Prog} (h : StepOf f p k) (hf : ∀ ts, QuietTS ts → QuietTS (f ts)) (hgk : GK k → GK p)
    (hk : QuietOK k) : QuietOK p :=
  ⟨h.ps hk.ps, hgk hk.gk, h.keeps hk.keeps, fun src ts hq => by rw [h.ts]; exact hk.ts _ _ (hf ts hq)⟩

section
variable {e : Env} {G : Gen → Prop} (hG : ∀ g, G g → GenOK (g.value e))
include hG

theorem quietProg_ok {p : Prog} (h : QuietProgOver e G p) : QuietOK p := by
  induction h with
  | ret v => exact ⟨ps_ret v, .ret v, fun _ _ _ _ hu => absurd rfl hu, fun _ _ h => h⟩
  | skip m | panic m s => exact ⟨ps_throw _, .throw _, fk_throw.keepsSome, fun _ _ h => h⟩
  | draw g k hg _ ih =>
    have hv := hG g hg
    refine ⟨ps_bind hv.ps fun v => ps_tick _ (ih v).ps, gk_bind hv.gk fun v => .tick _ (ih v).gk,
      (fk_bind_left hv.fk).keepsSome, fun src ts h => ?_⟩
    show QuietTS (((g.value e) >>- fun v => .tick (k v)).run src ts).ts
    cases hres : ((g.value e).run src ts).res with
    | error _ => rw [bind_run_error hres, hv.pure]; exact h
    | ok v => rw [bind_run_ok hres, after_ts, hv.pure]; exact (ih v).ts _ _ h
  | emit id k _ ih => exact (stepOf_emit id k).quietOK (fun _ h => h) (.emit id k) ih
  | ctx k _ ih => exact (stepOf_ctx k).quietOK (fun ts h => by cases ts.ctx <;> exact h) (.ctx k) ih
  | cleanup c k hc _ ih => exact (stepOf_cleanup c k).quietOK (fun _ h => h.push hc) (.cleanup c k) ih

theorem customOK_of_quiet {p : Prog} (h : QuietProgOver e G p) : CustomOK p where
  ps := fun src xs hg ho => (quietProg_ok hG h).ps src TS.fresh xs hg ho
  quiet := fun src => cleanupPhase_quiet ((quietProg_ok hG h).ts src TS.fresh ⟨rfl, fun _ hx => by simp [TS.fresh] at hx⟩)
  keeps := fun src v hr hu => (quietProg_ok hG h).keeps src TS.fresh v hr hu

end

/-- generator expressions whose Custom functions are quiet programs drawing from generators of
    the level below -/
def GenLvl (e : Env) : Nat → Gen → Prop
  | 0 => fun g => g.NoCustom
  | d+1 => fun g => g.CustomsIn (QuietProgOver e (GenLvl e d))

/-- **L-PS for generators with Custom functions nested to any depth** -/
theorem genLvl_ok (e : Env) (hrt : RTPos e) : ∀ (d : Nat) (g : Gen) (lab : Bool), GenLvl e d g → GenOK (g.body e lab)
  | 0, g, lab, h => gen_ok e hrt _ (fun _ _ h => h.elim) g lab h
  | d+1, g, lab, h =>
    have hG : ∀ g, GenLvl e d g → GenOK (g.value e) := fun g hg => ok_value _ (genLvl_ok e hrt d g _ hg)
    gen_ok e hrt _ (fun _ lab hb => ok_custom e lab (customOK_of_quiet hG hb) (quietProg_ok hG hb).gk) g lab h

theorem genLvl_value_ok (e : Env) (hrt : RTPos e) (d : Nat) (g : Gen) (h : GenLvl e d g) : GenOK (g.value e) :=
  ok_value _ (genLvl_ok e hrt d g _ h)

/-- property functions that draw from such generators -/
inductive PropProgC (e : Env) (d : Nat) : Prog → Prop
  | ret (v : Val) : PropProgC e d (.ret v)
  | throw (er : Err) : PropProgC e d (.throw er)
  | draw (g : Gen) (k : Val → Prog) : GenLvl e d g → (∀ v, PropProgC e d (k v)) → PropProgC e d (g.draw e k)
  | errorf (m : String) (k : Prog) : PropProgC e d k → PropProgC e d (.errorf m k)
  | emit (id : Nat) (k : Prog) : PropProgC e d k → PropProgC e d (.emit id k)
  | cleanup (c : CTree) (k : Prog) : PropProgC e d k → PropProgC e d (.cleanup c k)
  | ctx (k : Prog) : PropProgC e d k → PropProgC e d (.ctx k)
  | failOnError (site : Nat) (k : Prog) : PropProgC e d k → PropProgC e d (.failOnError site k)

/-- **L-PS for property functions over generators with (quiet) Custom functions**, and their groups keep a word -/
theorem propProgC_ok (e : Env) (hrt : RTPos e) {d : Nat} {p : Prog} (h : PropProgC e d p) : PS p ∧ GK p := by
  induction h with
  | ret v => exact ⟨ps_ret v, .ret v⟩
  | throw er => exact ⟨ps_throw er, .throw er⟩
  | draw g k hg _ ih =>
    have hv := genLvl_value_ok e hrt d g hg
    exact ⟨ps_bind hv.ps fun v => ps_tick _ (ih v).1, gk_bind hv.gk fun v => .tick _ (ih v).2⟩
  | errorf m k _ ih => exact ⟨ps_errorf m k ih.1, .errorf m k ih.2⟩
  | emit id k _ ih => exact ⟨ps_emit id k ih.1, .emit id k ih.2⟩
  | cleanup c k _ ih => exact ⟨ps_cleanup c k ih.1, .cleanup c k ih.2⟩
  | ctx k _ ih => exact ⟨ps_ctx k ih.1, .ctx k ih.2⟩
  | failOnError site k _ ih => exact ⟨ps_failOnError site k ih.1, .failOnError site k ih.2⟩

theorem propProgC_ps (e : Env) (hrt : RTPos e) {d : Nat} {p : Prog} (h : PropProgC e d p) : PS p := (propProgC_ok e hrt h).1

end Rapid
