/-
  RapidProofs.Contracts — what the unsigned integer primitives of utils.go hand to their continuation, for EVERY bit
  source and every parameter: a value inside the requested range, or no value at all (invalid data / out of fuel) —
  never an out-of-range value, never an assertion.  Each primitive has one `Spec` (RapidProofs/Spec.lean); the range
  contracts `Yields …` (RapidProps/C03.lean, `yields_…` here) and the independence of the continuation `uniform_…` are read
  off it.
-/
import RapidProofs.Spec

namespace Rapid

theorem spec_uintNoReject (max : UInt64) : Spec true (uintNoReject max) (fun u => u ≤ max) :=
  Spec.drawGroup fun u _ => Spec.ret (by
    simp only [vu_uv]
    split
    · exact UInt64.le_refl _
    · exact UInt64.not_lt.mp ‹_›)

theorem spec_uintUnbiased (max : UInt64) : ∀ fuel, Spec true (fun k => uintUnbiased max k fuel) (fun u => u ≤ max)
  | 0 => Spec.fuel
  | fuel+1 => Spec.drawGroup fun u _ => by
      simp only [vu_uv]
      exact Spec.ite _ (fun h => Spec.ret h) (fun _ => (spec_uintUnbiased max fuel).weaken)

/-- what `genUintNBiased`, `genUintRange` and `genIntRange` promise about their two flags: "left overflow" only with the
    least value `lo`, "right overflow" only with the greatest `hi` -/
def FlagsOK {α : Type} (lo hi : α) (x : α × Bool × Bool) : Prop :=
  (x.2.1 = true → x.1 = lo) ∧ (x.2.2 = true → x.1 = hi)

theorem spec_uintBiasedLoop (max : UInt64) (n bitlen : Nat) : ∀ fuel,
    Spec true (fun k => uintBiasedLoop max n bitlen (fun u l r => k (u, l, r)) fuel)
      (fun x => x.1 ≤ max ∧ FlagsOK 0 max x)
  | 0 => Spec.fuel
  | fuel+1 => Spec.drawGroup fun u _ => by
      exact Spec.ite _ (fun h => Spec.ret ⟨h, fun hl => eq_of_beq (Bool.and_eq_true_iff.mp hl).1,
        fun hr => eq_of_beq (Bool.and_eq_true_iff.mp hr).1⟩) (fun _ => (spec_uintBiasedLoop max n bitlen fuel).weaken)

theorem spec_uintBiased (ft : FT) (max : UInt64) (fuel : Nat) :
    Spec true (fun k => uintBiased ft max fuel (fun u l r => k (u, l, r)))
      (fun x => x.1 ≤ max ∧ FlagsOK 0 max x) :=
  Spec.drawGroup fun _ _ => (spec_uintBiasedLoop max _ _ fuel).weaken

theorem spec_uintN (ft : FT) (max : UInt64) (bias : Bool) (fuel : Nat) :
    Spec true (fun k => uintN ft max bias fuel (fun u l r => k (u, l, r)))
      (fun x => x.1 ≤ max ∧ FlagsOK 0 max x) := by
  cases bias with
  | true => exact spec_uintBiased ft max fuel
  | false =>
    refine ((spec_uintUnbiased max fuel).map fun u => (u, false, false)).mono ?_
    rintro _ ⟨u, hu, rfl⟩
    exact ⟨hu, by simp [FlagsOK]⟩

theorem spec_uintRange (ft : FT) (min max : UInt64) (bias : Bool) (fuel : Nat) (hmm : min ≤ max) :
    Spec true (fun k => uintRange ft min max bias fuel (fun u l r => k (u, l, r)))
      (fun x => (min ≤ x.1 ∧ x.1 ≤ max) ∧ FlagsOK min max x) := by
  simp only [uintRange, UInt64.not_lt.mpr hmm, if_false]
  refine ((spec_uintN ft (max - min) bias fuel).map fun x => (min + x.1, x.2.1, x.2.2)).mono ?_
  rintro _ ⟨x, ⟨hx, hl, hr⟩, rfl⟩
  refine ⟨u64_offset hmm hx, fun h => ?_, fun h => ?_⟩
  · show min + x.1 = min
    rw [hl h]; simp
  · show min + x.1 = max
    rw [hr h]; exact u64_add_sub min max

theorem spec_index (ft : FT) (n : Nat) (bias : Bool) (fuel : Nat) (hn : 0 < n) (hsmall : n ≤ 2 ^ 64) :
    Spec true (index ft n bias fuel) (fun i => i < n) := by
  unfold index
  simp only [Nat.ne_of_gt hn, if_false]
  refine ((spec_uintN ft (UInt64.ofNat (n - 1)) bias fuel).map fun x => x.1.toNat).mono ?_
  rintro _ ⟨x, ⟨hx, _⟩, rfl⟩
  have := UInt64.le_iff_toNat_le.mp hx
  rw [UInt64.toNat_ofNat_of_lt' (by simp [UInt64.size]; omega)] at this
  omega

theorem yields_uintNoReject (max : UInt64) : Yields (uintNoReject max) (fun u => u ≤ max) := (spec_uintNoReject max).yields

theorem uintRange_res {ft : FT} {min max : UInt64} {bias : Bool} {fuel : Nat} {k : UInt64 → Bool → Bool → Prog} {src : Src} {ts : TS}
    {v : Val} (h : ((uintRange ft min max bias fuel k).run src ts).res = .ok v) :
    ∃ u l r src', min ≤ u ∧ u ≤ max ∧ ((k u l r).run src' ts).res = .ok v := by
  by_cases hmm : min ≤ max
  · obtain ⟨a, ⟨⟨h1, h2⟩, _⟩, src', hk⟩ := (spec_uintRange ft min max bias fuel hmm).res (k := fun x => k x.1 x.2.1 x.2.2) h
    exact ⟨a.1, a.2.1, a.2.2, src', h1, h2, hk⟩
  · rw [uintRange, if_pos (UInt64.not_le.mp hmm)] at h; cases h

theorem yields_index (ft : FT) (n : Nat) (bias : Bool) (fuel : Nat) (hn : 0 < n) (hsmall : n ≤ 2 ^ 64) :
    Yields (index ft n bias fuel) (fun i => i < n) := (spec_index ft n bias fuel hn hsmall).yields

theorem uniform_uintRange (ft : FT) (min max : UInt64) (bias : Bool) (fuel : Nat) :
    Uniform (fun k => uintRange ft min max bias fuel (fun u l r => k (u, l, r))) := by
  by_cases hmm : min ≤ max
  · exact (spec_uintRange ft min max bias fuel hmm).uniform
  · simp only [uintRange, UInt64.not_le.mp hmm, if_true]; exact Sim.throw _ _

end Rapid
