/-
  engine.go `checkFailFile` and `doCheck`, translated from the source on every run (check mode, `Go.CM` of
  RapidModel/GoCheck.lean: loading a fail file, running one test case on a fresh `*T`, the generation loop and the shrinker
  are requests), proved to be the model's: `tr_checkFailFile`, `tr_doCheck`.
-/
import RapidModel.Generated.Translated
import RapidProofs.GoLemmas
import RapidProofs.Once

namespace Rapid.Go

def CM.run {α : Type} (E : CEnv) (x : CM α) (o : Option Once) : Except Panic α × Option Once := CScript.run E x o

theorem CScript.run_bind {α β : Type} (E : CEnv) (x : CScript α) (f : α → CScript β) (o : Option Once) :
    CScript.run E (x.bind f) o = CScript.run E (f (CScript.run E x o).1) (CScript.run E x o).2 := by
  induction x generalizing o with
  | ret a => rfl
  | glob k ih => exact ih _ o
  | load n k ih =>
    simp only [CScript.bind, CScript.run]
    cases E.file n <;> exact ih _ o
  | once s k ih => exact ih _ _
  | findBug c s k ih => exact ih _ o
  | shrink e k ih => cases o <;> exact ih _ _
  | pruned k ih => cases o <;> exact ih _ _

@[simp] theorem CM.run_bind {α β : Type} (E : CEnv) (x : CM α) (f : α → CM β) (o : Option Once) :
    CM.run E (x >>= f) o =
      match CM.run E x o with
      | (.ok a, o') => CM.run E (f a) o'
      | (.error e, o') => (.error e, o') := by
  refine (CScript.run_bind E x _ o).trans ?_
  unfold CM.run
  rcases CScript.run E x o with ⟨_ | _, _⟩ <;> rfl

/-- a step with a known outcome, for `rw`: it touches the head of the script only, where `simp only [CM.run_bind]` goes through the
    whole continuation at every step -/
theorem CM.run_bind_ok {α β : Type} {E : CEnv} {x : CM α} {f : α → CM β} {o o' : Option Once} {a : α}
    (h : CM.run E x o = (.ok a, o')) : CM.run E (x >>= f) o = CM.run E (f a) o' := by
  rw [CM.run_bind, h]

@[simp] theorem CM.run_pure {α : Type} (E : CEnv) (a : α) (o : Option Once) : CM.run E (pure a : CM α) o = (.ok a, o) := rfl
@[simp] theorem CM.run_ofM {α : Type} (E : CEnv) (x : M α) (o : Option Once) : CM.run E (CM.ofM x) o = (x, o) := rfl
@[simp] theorem CM.run_fuel {α : Type} (E : CEnv) (o : Option Once) : CM.run E (CM.fuel : CM α) o = (.error .fuel, o) := rfl
@[simp] theorem CM.run_glob (E : CEnv) (o : Option Once) : CM.run E CM.glob o = (.ok E.found, o) := rfl
@[simp] theorem CM.run_once (E : CEnv) (s : SSpec) (o : Option Once) :
    CM.run E (CM.once s) o = (.ok ((checkOnce E.p s.src TS.fresh).err, (checkOnce E.p s.src TS.fresh).used), some (checkOnce E.p s.src TS.fresh)) := rfl
@[simp] theorem CM.run_findBug (E : CEnv) (c : Int64) (s : UInt64) (o : Option Once) :
    CM.run E (CM.findBug c s) o =
      (.ok (Int64.ofNat (Rapid.findBug E.p (natOfInt c) s E.early).valid, Int64.ofNat (Rapid.findBug E.p (natOfInt c) s E.early).invalid,
        (Rapid.findBug E.p (natOfInt c) s E.early).early, (Rapid.findBug E.p (natOfInt c) s E.early).seed,
        (Rapid.findBug E.p (natOfInt c) s E.early).err), o) := rfl
@[simp] theorem CM.run_shrink (E : CEnv) (e : ErrV) (r : Once) :
    CM.run E (CM.shrink e) (some r) = (.ok (shrinkWith E.p ⟨r.kept, e⟩ E.cands), some r) := rfl
theorem CM.run_load (E : CEnv) (n : String) (o : Option Once) :
    CM.run E (CM.load n) o =
      match E.file n with
      | .unloadable => (.ok ("", [], true), o)
      | .loaded v _ buf => (.ok (v, buf, false), o) := by
  show CScript.run E (CScript.load n _) o = _
  simp only [CScript.run]
  cases E.file n <;> rfl

@[simp] theorem CM.run_ite {α : Type} (E : CEnv) (c : Bool) (x y : CM α) (o : Option Once) :
    CM.run E (if c = true then x else y) o = if c = true then CM.run E x o else CM.run E y o := by
  cases c <;> rfl

/-- `checkFailFile` hands back zero values when the file is not used -/
def ffOut : Option (List UInt64 × Option Err × Option Err) → List UInt64 × ErrV × ErrV
  | some r => r
  | none => ([], none, none)

/-- **`checkFailFile` of the source is the model's** — an unloadable file, a file of another version, a test case that passes
    or is invalid now are not used; otherwise the words and the errors of two replays -/
theorem tr_checkFailFile (E : CEnv) (name : String) (o : Option Once) :
    ∃ o', CM.run E (Translated.checkFailFile name) o = (.ok (ffOut (Rapid.checkFailFile E.p (E.file name))), o') := by
  rw [Translated.checkFailFile, CM.run_bind, CM.run_load]
  cases E.file name with
  | unloadable => exact ⟨o, rfl⟩
  | loaded v s buf =>
    obtain ⟨r, hr⟩ : ∃ r, checkOnce E.p (.buf buf) TS.fresh = r := ⟨_, rfl⟩
    have once : ∀ o, CM.run E (CM.once (.buf buf)) o = (.ok (r.err, r.used), some r) := fun _ => hr ▸ rfl
    dsimp only
    rw [if_neg Bool.false_ne_true, Rapid.checkFailFile, hr]
    by_cases hv : (v != rapidVersion) = true
    · rw [if_pos hv, if_pos (show (v != "v0.4.8") = true from hv)]; exact ⟨o, rfl⟩
    rw [if_neg hv, if_neg (show ¬ (v != "v0.4.8") = true from hv), CM.run_bind_ok (once o)]
    dsimp only
    cases he : r.err with
    | none => exact ⟨_, rfl⟩
    | some e =>
      dsimp only
      rw [if_neg (show ¬ (some e).isNone = true from Bool.false_ne_true)]
      by_cases hi : e.isInvalid = true
      · rw [if_pos (show errvInvalid (some e) = true from hi), if_pos hi]; exact ⟨_, rfl⟩
      · rw [if_neg (show ¬ errvInvalid (some e) = true from hi), if_neg hi, CM.run_bind_ok (once _), he]; exact ⟨_, rfl⟩

/-- what the loop over the fail files hands back when it stands at index `j` with the names `rest` still to come: the index it stops
    at and, if a file reproduces, the results of `doCheck` -/
def loopOut (E : CEnv) (names rest : List String) (j : Nat) :
    Int64 × Option (Int64 × Int64 × Bool × UInt64 × String × List UInt64 × ErrV × ErrV) :=
  match firstFailFile E.p (rest.map E.file) j with
  | some (i, b, e1, e2) => (Int64.ofNat i, some (0, 0, false, 0, names.getD i "", b, e1, e2))
  | none => (Int64.ofNat names.length, none)

theorem tr_doCheck_loop (E : CEnv) (names : List String) (hl : names.length < 2 ^ 62) (fuel : Nat) (hf : names.length < fuel)
    (ff0 : String) (o : Option Once) :
    ∃ o', CM.run E (Translated.doCheck_loop1 ff0 names (glen names) fuel (Int64.ofNat 0)) o = (.ok (loopOut E names names 0), o') := by
  refine range_loop names (by omega)
    (fun fuel (s : String × Option Once) j => CM.run E (Translated.doCheck_loop1 s.1 names (glen names) fuel j) s.2)
    (fun j rest _ r => ∃ o', r = (.ok (loopOut E names rest j), o')) ?_ ?_ fuel 0 (ff0, o) (Nat.zero_le _) hf
  · intro hge fuel s
    exact ⟨s.2, by rw [Translated.doCheck_loop1, hge]; rfl⟩
  · intro j h hlt hidx fuel s
    obtain ⟨o1, h1⟩ := tr_checkFailFile E names[j] s.2
    -- one unfolding of the loop, named so that the steps below rewrite it once and not in both disjuncts of the goal
    generalize hX : CM.run E (Translated.doCheck_loop1 s.1 names (glen names) (fuel + 1) (Int64.ofNat j)) s.2 = X
    rw [Translated.doCheck_loop1] at hX
    simp only [hlt, if_true, CM.run_bind, CM.run_ofM, hidx, h1] at hX
    rw [loopOut, List.map_cons, firstFailFile]
    cases hc : Rapid.checkFailFile E.p (E.file names[j]) with
    | none =>
      simp only [hc, ffOut, Option.isSome_none, Bool.or_self, Bool.false_eq_true, if_false, i64_ofNat_succ] at hX
      exact Or.inr ⟨(names[j], o1), hX.symm, fun r h => h⟩
    | some r =>
      obtain ⟨b, e1, e2⟩ := r
      obtain ⟨rfl, _, e, rfl, _⟩ := Rapid.checkFailFile_spec hc
      simp only [hc, ffOut, Option.isSome_some, Bool.true_or, if_true, CM.run_pure] at hX
      subst hX
      exact Or.inl ⟨o1, by simp only [List.getD, List.getElem?_eq_getElem h, Option.getD_some]⟩

/-- the fail files `doCheck` looks at, in order: the one given with `-rapid.failfile`, then what the glob finds -/
def failFileNames (failfile : String) (globf : Bool) (found : List String) : List String :=
  (if failfile != "" then [failfile] else []) ++ (if globf then found else [])

/-- the model's `DC` as the eight results of the source's `doCheck` (the fail file by name) -/
def dcOut (names : List String) (d : DC) : Int64 × Int64 × Bool × UInt64 × String × List UInt64 × ErrV × ErrV :=
  (Int64.ofNat d.valid, Int64.ofNat d.invalid, d.early, d.seed,
    (match d.fromFile with | some i => names.getD i "" | none => ""), d.buf, d.err1, d.err2)

/-- **`doCheck` of the source is the model's `doCheck`**: for every property, fail files, seed, number of checks, clock and
    candidate sequence of the shrinker the translated function hands back the model's results -/
theorem tr_doCheck (E : CEnv) (checks : Nat) (hc : checks < 2 ^ 62) (seed : UInt64) (failfile : String) (globf : Bool) (fuel : Nat)
    (hl : (failFileNames failfile globf E.found).length < 2 ^ 62) (hfuel : (failFileNames failfile globf E.found).length < fuel) :
    (CM.run E (Translated.doCheck (Int64.ofNat checks) seed failfile globf fuel) none).1 =
      .ok (dcOut (failFileNames failfile globf E.found)
        (Rapid.doCheck E.p checks seed ((failFileNames failfile globf E.found).map E.file) E.early E.cands)) := by
  have h1 : CM.run E (if (failfile != "") = true then (pure [failfile] : CM (List String)) else pure []) none =
      (.ok (if (failfile != "") = true then [failfile] else []), none) := by
    cases (failfile != "") <;> rfl
  have h2 : ∀ a : List String, CM.run E (if globf = true then CM.glob >>= fun m => pure (a ++ m) else pure a) none =
      (.ok (a ++ if globf = true then E.found else []), none) := by
    intro a; cases globf <;> simp
  have hn : ((if (failfile != "") = true then [failfile] else []) ++ if globf = true then E.found else []) =
      failFileNames failfile globf E.found := rfl
  rw [Translated.doCheck]
  dsimp only
  rw [CM.run_bind_ok h1, CM.run_bind_ok (h2 _), hn]
  generalize failFileNames failfile globf E.found = names at hl hfuel ⊢
  obtain ⟨o1, hloop⟩ := tr_doCheck_loop E names hl fuel hfuel failfile none
  rw [i64_zero_ofNat, CM.run_bind_ok hloop, loopOut, Rapid.doCheck]
  cases hfirst : firstFailFile E.p (List.map E.file names) 0 with
  | some r => rfl
  | none =>
    dsimp only
    obtain ⟨fb, hfb⟩ : ∃ fb, Rapid.findBug E.p checks seed E.early = fb := ⟨_, rfl⟩
    have hfind : CM.run E (CM.findBug (Int64.ofNat checks) seed) o1 =
        (.ok (Int64.ofNat fb.valid, Int64.ofNat fb.invalid, fb.early, fb.seed, fb.err), o1) := by
      rw [CM.run_findBug, natOfInt_ofNat (show checks < 2 ^ 63 by omega), hfb]
    rw [CM.run_bind_ok hfind, hfb]
    cases hfe : fb.err with
    | none => rfl
    | some e =>
      obtain ⟨r, hr⟩ : ∃ r, checkOnce E.p (.rng (Jsf.init fb.seed)) TS.fresh = r := ⟨_, rfl⟩
      have once : CM.run E (CM.once (.rng fb.seed)) o1 = (.ok (r.err, r.used), some r) := hr ▸ rfl
      dsimp only
      rw [if_neg (show ¬ (some e).isNone = true from Bool.false_ne_true), CM.run_bind_ok once, hr]
      by_cases hs : (!sameError (some e) r.err) = true
      · rw [if_pos hs, if_pos hs]; rfl
      · rw [if_neg hs, if_neg hs]; rfl

end Rapid.Go
