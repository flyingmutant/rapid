/-
  RapidProofs.TranslatedPruneEq — `recordedBits.removeGroup` and `recordedBits.prune` of data.go, as translated from
  /repo on every run (`RapidModel.Generated.Translated`), against the literal model `Rec.removeGroup` / `Rec.prune`
  (`RapidModel.Rec`): for every recording whose sizes fit an `int` with room to spare (`Rec.Small`) and on which the
  model's function succeeds, the source's function returns the model's result — data and the whole group list.
  (The model's `none` stands for an index/slice panic or a failed assertion; on the recording of a run it is reached only
  at the closing assertion of `prune()`, when a kept group keeps no word: `prune_forest`.)  Also `without` of shrink.go
  (`tr_without`): cutting the spans of groups out of the data, last group first, is the model's `without?`.
-/
import RapidProofs.Forest
import RapidProofs.TranslatedDataEq

namespace Rapid

/-- a model group as the source's `groupInfo`: `Translated.groupInfoOf` with its `Int64.ofInt` written `I`, so that
    the `I_*` lemmas apply to the fields; `end_` may be `I (-1)` -/
def goOf (g : GI) : Translated.groupInfo :=
  { begin := I (g.begin : Int), end_ := I g.end_, label := g.label, standalone := g.standalone, discard := g.discard }

def GI.Small (g : GI) : Prop := g.begin < 2 ^ 62 ∧ -1 ≤ g.end_ ∧ g.end_ < 2 ^ 62

def Rec.Small (r : Rec) : Prop := r.data.length < 2 ^ 62 ∧ r.groups.length < 2 ^ 61 ∧ ∀ g ∈ r.groups, g.Small

theorem GI.Small.inI {g : GI} (h : g.Small) : InI g.begin ∧ InI g.end_ := by
  unfold GI.Small at h
  unfold InI
  omega

theorem GI.Small.begin_lt {g : GI} (h : g.Small) : g.begin < 2 ^ 63 := Nat.lt_trans h.1 (by decide)

theorem GI.Small.end_lt {g : GI} (h : g.Small) : g.end_.toNat < 2 ^ 63 := by have := h.2.2; omega

theorem getElem?_map_goOf (gs : List GI) (j : Nat) : (gs.map goOf)[j]? = (gs[j]?).map goOf := List.getElem?_map

/-- `if rec.groups[j].begin >= g.end { … -= n }; if rec.groups[j].end >= g.end { … -= n }` of `removeGroup`'s second loop, one
    after the other; the model's `shiftG` makes both tests on the entry as it was -/
def shiftT (gT : Translated.groupInfo) (n : Int64) (e : Translated.groupInfo) : Translated.groupInfo :=
  let e1 : Translated.groupInfo := if e.begin ≥ gT.end_ then { e with begin := e.begin - n } else e
  if e1.end_ ≥ gT.end_ then { e1 with end_ := e1.end_ - n } else e1

theorem shift_eq {g h : GI} {e : Nat} (he : g.end_ = e) (hbe : g.begin ≤ e) (hg : g.Small) (hh : h.Small) :
    shiftT (goOf g) (I (g.end_ - g.begin)) (goOf h) = goOf (shiftG g h) := by
  have c1 : I g.end_ ≤ I h.begin ↔ g.end_ ≤ h.begin := I_le_iff hg.inI.2 hh.inI.1
  have c2 : I g.end_ ≤ I h.end_ ↔ g.end_ ≤ h.end_ := I_le_iff hg.inI.2 hh.inI.2
  have hn : ((g.end_.toNat - g.begin : Nat) : Int) = g.end_ - g.begin := by rw [he, Int.toNat_natCast, Int.natCast_sub hbe]
  have hk : g.end_ ≤ h.begin → ((h.begin - (g.end_.toNat - g.begin) : Nat) : Int) = h.begin - (g.end_ - g.begin) := fun hb => by
    rw [← hn, he, Int.toNat_natCast]; rw [he] at hb; omega
  unfold shiftT shiftG
  by_cases hb : g.end_ ≤ h.begin <;> by_cases hee : g.end_ ≤ h.end_ <;>
    simp only [goOf, ge_iff_le, c1, c2, hb, hee, if_true, if_false, I_sub, hn, hk]

/-- `for j < len(rec.groups) && rec.groups[j].end <= g.end` of `removeGroup`: the scan past the groups inside `g` -/
theorem tr_rgLoop1 (g : GI) (hg : g.Small) (gs : List GI) (hs : ∀ h ∈ gs, h.Small) (hl : gs.length < 2 ^ 63) (fuel j : Nat)
    (hj : j ≤ gs.length) (hf : gs.length - j < fuel) :
    Translated.recordedBits_removeGroup_loop1 (goOf g) (gs.map goOf) fuel (Int64.ofNat j) =
      .ok (Int64.ofNat (j + ((gs.drop j).takeWhile fun h => h.end_ ≤ g.end_).length)) := by
  rw [← List.length_map (f := goOf)] at hl hj hf
  refine range_loop (gs.map goOf) hl (fun fuel (_ : Unit) j => Translated.recordedBits_removeGroup_loop1 (goOf g) (gs.map goOf) fuel j)
    (fun j _ _ r => r = .ok (Int64.ofNat (j + ((gs.drop j).takeWhile fun h => h.end_ ≤ g.end_).length))) ?_ ?_ fuel j () hj hf
  · intro hlt fuel _
    show Translated.recordedBits_removeGroup_loop1 _ _ (fuel + 1) _ = _
    rw [Translated.recordedBits_removeGroup_loop1, hlt, List.length_map, List.drop_length]; rfl
  · intro j h hlt hidx fuel _
    have hj : j < gs.length := by rwa [List.length_map] at h
    show Translated.recordedBits_removeGroup_loop1 _ _ (fuel + 1) _ = _ ∨ _
    rw [Translated.recordedBits_removeGroup_loop1, hlt, hidx, M.ok_bind, List.drop_eq_getElem_cons hj, List.takeWhile_cons,
      List.getElem_map, show decide ((goOf gs[j]).end_ ≤ (goOf g).end_) = _ from I_le (hs _ (List.getElem_mem hj)).inI.2 hg.inI.2]
    cases decide (gs[j].end_ ≤ g.end_)
    · exact Or.inl rfl
    · refine Or.inr ⟨(), by rw [i64_ofNat_succ]; rfl, fun r hr => ?_⟩
      rw [hr, if_pos rfl, List.length_cons, Nat.add_right_comm, Nat.add_assoc]

/-- `for j := range rec.groups` of `removeGroup`: every `begin` and `end` at or behind `g.end` moves left by the length of the cut -/
theorem tr_rgLoop2 (gT : Translated.groupInfo) (n : Int64) (l : List Translated.groupInfo) (hl : l.length < 2 ^ 63) (fuel : Nat)
    (hf : l.length < fuel) :
    Translated.recordedBits_removeGroup_loop2 gT n (Go.glen l) fuel 0 l = .ok (Go.glen l, l.map (shiftT gT n)) := by
  refine fuel_loop (fun fuel (s : List Translated.groupInfo × List Translated.groupInfo) =>
      Translated.recordedBits_removeGroup_loop2 gT n (Go.glen l) fuel (Int64.ofNat s.1.length) (s.1 ++ s.2))
    (fun s r => r = .ok (Go.glen l, s.1 ++ s.2.map (shiftT gT n))) (fun s => s.1.length + s.2.length = l.length) (fun s => s.2.length)
    ?_ fuel ([], l) (Nat.zero_add _) hf
  rintro fuel ⟨done, rest⟩ (hd : done.length + rest.length = l.length)
  show Translated.recordedBits_removeGroup_loop2 gT n (Go.glen l) (fuel + 1) (Int64.ofNat done.length) (done ++ rest) = _ ∨ _
  cases rest with
  | nil =>
    left
    rw [Translated.recordedBits_removeGroup_loop2, glen_eq, ← hd, List.length_nil, Nat.add_zero, decide_eq_false Int64.lt_irrefl]
    rfl
  | cons x rest =>
    rw [List.length_cons] at hd
    have hd63 : done.length < 2 ^ 63 := by omega
    refine Or.inr ⟨(done ++ [shiftT gT n x], rest), ?_, by simp only [List.length_append, List.length_singleton]; omega,
      Nat.lt_succ_self _, fun r hr => by rw [hr, List.map_cons, List.append_assoc]; rfl⟩
    rw [Translated.recordedBits_removeGroup_loop2, glen_eq, (i64_ofNat_lt hd63 hl).trans (decide_eq_true (by omega)), if_pos rfl,
      update_mid done rest x (fun e => e.begin ≥ gT.end_) (fun e g_ => { g_ with begin := e.begin - n }) hd63, M.ok_bind,
      update_mid done rest _ (fun e => e.end_ ≥ gT.end_) (fun e g_ => { g_ with end_ := e.end_ - n }) hd63, M.ok_bind, i64_ofNat_succ,
      List.length_append, List.length_singleton, List.append_assoc]
    rfl

/-- what a successful `Rec.removeGroup` did: `g` at `i`, ending at `e`; `C` the entries behind it that the scan passed, `L` those kept -/
theorem removeGroup_some (r r' : Rec) (i : Nat) (h : r.removeGroup i = some r') :
    ∃ (g : GI) (e : Nat) (C L : List GI), r.groups[i]? = some g ∧ g.end_ = e ∧ g.begin ≤ e ∧ e ≤ r.data.length ∧
      C = ((r.groups.drop (i + 1)).takeWhile fun h => h.end_ ≤ g.end_) ∧
      L = r.groups.take i ++ r.groups.drop (i + 1 + C.length) ∧ L.length + (1 + C.length) = r.groups.length ∧ i ≤ L.length ∧
      (∀ x ∈ L, x ∈ r.groups) ∧ r' = ⟨r.data.take g.begin ++ r.data.drop e, L.map (shiftG g)⟩ := by
  rw [removeGroup_def] at h
  obtain ⟨g, hg, h⟩ := Option.bind_eq_some_iff.mp h
  split at h
  · next hc =>
    have hi := (List.getElem?_eq_some_iff.mp hg).1
    have hC := (List.takeWhile_sublist (l := r.groups.drop (i + 1)) (fun h : GI => decide (h.end_ ≤ g.end_))).length_le
    rw [List.length_drop] at hC
    refine ⟨g, g.end_.toNat, _, _, hg, (Int.toNat_of_nonneg hc.1).symm, hc.2.1, hc.2.2, rfl, rfl, ?_, ?_,
      fun x hx => (List.mem_append.mp hx).elim List.mem_of_mem_take List.mem_of_mem_drop, (Option.some.inj h).symm⟩
    · rw [List.length_append, List.length_take_of_le (Nat.le_of_lt hi), List.length_drop]; omega
    · rw [List.length_append, List.length_take_of_le (Nat.le_of_lt hi)]; exact Nat.le_add_right _ _
  · cases h

theorem shiftG_small {g h : GI} {e : Nat} (he : g.end_ = e) (hbe : g.begin ≤ e) (hh : h.Small) : (shiftG g h).Small := by
  obtain ⟨h1, h2, h3⟩ := hh
  simp only [shiftG, GI.Small, he, Int.toNat_natCast]
  refine ⟨?_, ?_, ?_⟩ <;> split <;> omega

theorem removeGroup_small (r r' : Rec) (i : Nat) (hs : r.Small) (h : r.removeGroup i = some r') :
    r'.Small ∧ r'.groups.length < r.groups.length ∧ i ≤ r'.groups.length := by
  obtain ⟨g, e, C, L, _, he, hbe, hel, _, _, hlen, hi, hmem, rfl⟩ := removeGroup_some r r' i h
  obtain ⟨hd, hl, hgs⟩ := hs
  have hlt : (L.map (shiftG g)).length < r.groups.length := by rw [List.length_map]; omega
  refine ⟨⟨?_, Nat.lt_trans hlt hl, ?_⟩, hlt, (List.length_map _).symm ▸ hi⟩
  · show List.length (_ ++ _) < _
    rw [List.length_append, List.length_take_of_le (Nat.le_trans hbe hel), List.length_drop]; omega
  · intro x hx
    obtain ⟨y, hy, rfl⟩ := List.mem_map.mp hx
    exact shiftG_small he hbe (hgs y (hmem y hy))

theorem idx_goOf {gs : List GI} {i : Nat} {g : GI} (hg : gs[i]? = some g) (hi : i < 2 ^ 63) :
    Go.idx (gs.map goOf) (Int64.ofNat i) = .ok (goOf g) :=
  idx_some hi (by rw [getElem?_map_goOf, hg]; rfl)

/-- **`recordedBits.removeGroup` of /repo is the model's `Rec.removeGroup`** wherever the model's succeeds -/
theorem tr_removeGroup (r r' : Rec) (hs : r.Small) (i fuel : Nat) (hf : r.groups.length + 2 ≤ fuel)
    (h : r.removeGroup i = some r') :
    Translated.recordedBits_removeGroup r.data (r.groups.map goOf) (Int64.ofNat i) fuel = .ok (r'.data, r'.groups.map goOf) := by
  obtain ⟨g, e, C, L, hg, he, hbe, hel, hC, hL, hlen, hi, hmem, rfl⟩ := removeGroup_some r r' i h
  obtain ⟨hd, hl, hgs⟩ := hs
  have hgS := hgs g (List.mem_of_getElem? hg)
  have hl1 := tr_rgLoop1 g hgS r.groups hgs (Nat.lt_trans hl (by decide)) fuel (i + 1) (List.getElem?_eq_some_iff.mp hg).1 (by omega)
  rw [← hC] at hl1
  have hlm : (r.groups.map goOf).length = r.groups.length := List.length_map _
  have hd63 : r.data.length < 2 ^ 63 := Nat.lt_trans hd (by decide)
  have hg63 : (r.groups.map goOf).length < 2 ^ 63 := hlm ▸ Nat.lt_trans hl (by decide)
  have hb : (goOf g).begin = Int64.ofNat g.begin := I_nat _
  have hee : (goOf g).end_ = Int64.ofNat e := by show I g.end_ = _; rw [he, I_nat]
  have hl2 := tr_rgLoop2 (goOf g) (I (g.end_ - g.begin)) (L.map goOf) (by rw [List.length_map]; omega) fuel
    (by rw [List.length_map]; omega)
  have hmap : (L.map goOf).map (shiftT (goOf g) (I (g.end_ - g.begin))) = (L.map (shiftG g)).map goOf := by
    -- `∘` opened here: left to the unifier against `shift_eq`, `shiftT` is unfolded first, which is slow
    simp only [List.map_map, Function.comp_def]
    exact List.map_congr_left fun x hx => shift_eq he hbe hgS (hgs x (hmem x hx))
  rw [hmap] at hl2
  have hn : Int64.ofNat e - Int64.ofNat g.begin = I (g.end_ - g.begin) := by rw [he, ← I_nat, ← I_nat, I_sub]
  rw [Translated.recordedBits_removeGroup, idx_goOf hg (by omega), M.ok_bind]
  dsimp only
  rw [hee, i64_ofNat_nonneg (by omega), Go.assert, if_pos rfl, M.ok_bind, i64_ofNat_succ, hl1, M.ok_bind,
    hb, sliceTo_le _ (Nat.le_trans hbe hel) hd63, M.ok_bind, sliceFrom_le _ hel hd63, M.ok_bind,
    sliceTo_le _ (by omega) hg63, M.ok_bind, sliceFrom_le _ (by omega) hg63, M.ok_bind,
    ← List.map_take, ← List.map_drop, ← List.map_append, ← hL, hn, hl2]
  rfl

theorem tr_pruneLoop1 : ∀ (fM i : Nat) (r r' : Rec) (fT : Nat), r.Small → i ≤ r.groups.length →
    2 * r.groups.length + 3 ≤ fT + i → r.groups.length < fM + i → Rec.pruneGo fM i r = some r' →
    r'.Small ∧ r'.groups.length ≤ r.groups.length ∧
      ∃ i', Translated.recordedBits_prune_loop1 fT (Int64.ofNat i) r.data (r.groups.map goOf) =
        .ok (Int64.ofNat i', r'.data, r'.groups.map goOf) := by
  intro fM
  induction fM with
  | zero => intro i r r' fT _ _ _ h; omega
  | succ fM ih =>
    intro i r r' fT hs hi hf hm h
    obtain ⟨f, rfl⟩ := Nat.exists_eq_add_one.mpr (show 0 < fT by omega)
    have hl := hs.2.1
    have hcmp : decide (Int64.ofNat i < Go.glen (r.groups.map goOf)) = decide (i < r.groups.length) := by
      rw [glen_eq, List.length_map]; exact i64_ofNat_lt (by omega) (by omega)
    rw [Translated.recordedBits_prune_loop1, hcmp]
    unfold Rec.pruneGo at h
    split at h
    · next hg =>
      obtain rfl : r = r' := Option.some.inj h
      rw [decide_eq_false fun hlt => by rw [List.getElem?_eq_getElem hlt] at hg; cases hg]
      exact ⟨hs, Nat.le_refl _, i, rfl⟩
    · next g hg =>
      have hil : i < r.groups.length := (List.getElem?_eq_some_iff.mp hg).1
      rw [decide_eq_true hil, if_pos rfl, idx_goOf hg (by omega), M.ok_bind, M.pure_eq, M.ok_bind]
      split at h
      · next hd =>
        obtain ⟨r1, hrm, h⟩ := Option.bind_eq_some_iff.mp h
        obtain ⟨hs1, hlt, hge⟩ := removeGroup_small r r1 i hs hrm
        obtain ⟨hs', hle, i', hi'⟩ := ih i r1 r' f hs1 hge (by omega) (by omega) h
        refine ⟨hs', by omega, i', ?_⟩
        rw [show (goOf g).discard = true from hd, if_pos rfl, tr_removeGroup r r1 hs i f (by omega) hrm]
        exact hi'
      · next hd =>
        obtain ⟨hs', hle, i', hi'⟩ := ih (i + 1) r r' f hs hil (by omega) (by omega) h
        refine ⟨hs', hle, i', ?_⟩
        rw [show (goOf g).discard = false from Bool.eq_false_iff.mpr hd, if_neg Bool.false_ne_true]
        simp only [M.ok_bind, M.pure_eq, i64_ofNat_succ]
        exact hi'

theorem tr_pruneLoop2 (l : List Translated.groupInfo) (hl : l.length < 2 ^ 63) (hall : (l.all fun e => e.begin != e.end_) = true)
    (fuel : Nat) (hf : l.length < fuel) :
    Translated.recordedBits_prune_loop2 (Go.glen l) l fuel (Int64.ofNat 0) = .ok (Go.glen l) := by
  refine range_loop l hl (fun fuel (_ : Unit) j => Translated.recordedBits_prune_loop2 (Go.glen l) l fuel j)
    (fun _ _ _ r => r = .ok (Go.glen l)) ?_ ?_ fuel 0 () (Nat.zero_le _) (by omega)
  · intro hlt fuel _
    show Translated.recordedBits_prune_loop2 _ _ (fuel + 1) _ = _
    rw [Translated.recordedBits_prune_loop2, hlt]; rfl
  · intro j h hlt hidx fuel _
    refine Or.inr ⟨(), ?_, fun r hr => hr⟩
    show Translated.recordedBits_prune_loop2 _ _ (fuel + 1) _ = _
    rw [Translated.recordedBits_prune_loop2, hlt, if_pos rfl, hidx, M.ok_bind, List.all_eq_true.mp hall _ (List.getElem_mem h),
      Go.assert, if_pos rfl, M.ok_bind, i64_ofNat_succ]

/-- **`recordedBits.prune` of /repo is the model's `Rec.prune`** wherever the model's succeeds (on the recording of a run: unless a
    kept group keeps no word, `literal_prune_of_run`) -/
theorem tr_prune (r r' : Rec) (hs : r.Small) (fuel : Nat) (hf : 2 * r.groups.length + 4 ≤ fuel) (h : r.prune = some r') :
    Translated.recordedBits_prune r.data (r.groups.map goOf) true fuel = .ok (r'.data, r'.groups.map goOf, true) := by
  unfold Rec.prune at h
  split at h
  · cases h
  · next r1 hp =>
    split at h
    · next hall =>
      obtain rfl : r1 = r' := Option.some.inj h
      obtain ⟨hs', hlen, i', hi'⟩ := tr_pruneLoop1 (r.groups.length + 1) 0 r r1 fuel hs (Nat.zero_le _) (by omega) (by omega) hp
      rw [Translated.recordedBits_prune, Go.assert, if_pos rfl, M.ok_bind, i64_zero_ofNat]
      dsimp only
      rw [hi', M.ok_bind]
      dsimp only
      rw [tr_pruneLoop2 (r1.groups.map goOf) (by rw [List.length_map]; have := hs'.2.1; omega) ?_ fuel (by rw [List.length_map]; omega)]
      · rfl
      · rw [List.all_map]
        exact List.all_eq_true.mpr fun g hg =>
          (I_bne (hs'.2.2 g hg).inI.1 (hs'.2.2 g hg).inI.2).trans (List.all_eq_true.mp hall g hg)
    · cases h

/-- what `without` needs of a group, on the source's record: finished and ordered, so that the only panic left to
    the two slice expressions of a cut is the one `cut?` has, a span beyond the buffer (`tr_cut`) -/
def GOK (g : Translated.groupInfo) : Prop :=
  0 ≤ g.begin.toInt ∧ g.begin.toInt ≤ g.end_.toInt ∧ g.end_.toInt < 2 ^ 62

/-- `append(buf[:g.begin], buf[g.end:]...)` of `without`'s loop, then `k` -/
theorem tr_cut {β : Type} (buf : List UInt64) (g : Translated.groupInfo) (hg : GOK g) (k : List UInt64 → Go.M β) :
    ((Go.sliceTo buf g.begin) >>= fun s2 => (Go.sliceFrom buf g.end_) >>= fun s3 => k (s2 ++ s3)) =
      Go.ofOpt (cut? buf (giOf g).begin (giOf g).end_) >>= k := by
  obtain ⟨h0, hbe, -⟩ := hg
  have he0 : 0 ≤ g.end_.toInt := by omega
  simp only [giOf, cut?, Go.sliceTo, Go.sliceFrom, pos_nonneg _ h0, pos_nonneg _ he0, he0, true_and]
  have hbe' : g.begin.toInt.toNat ≤ g.end_.toInt.toNat := by omega
  generalize g.begin.toInt.toNat = b at hbe' ⊢
  generalize g.end_.toInt.toNat = e at hbe' ⊢
  by_cases hle : e ≤ buf.length
  · have hbl : b ≤ buf.length := by omega
    simp [hle, hbl, hbe']
  · by_cases hbl : b ≤ buf.length <;> simp [hle, hbl]

theorem tr_without_fuel (data : List UInt64) (groups : List Translated.groupInfo) (fuel : Nat) (hok : ∀ g ∈ groups, GOK g)
    (hl : groups.length < 2 ^ 62) :
    Translated.without data groups fuel = Go.ofOpt (without? data (groups.map giOf)) ∨
      (fuel ≤ groups.length ∧ Translated.without data groups fuel = .error .fuel) := by
  have loop : ∀ (n : Nat) (buf : List UInt64) (fT : Nat), n ≤ groups.length →
      (Translated.without_loop1 groups fT buf (Int64.ofNat n - 1) >>= fun t => pure t.1) =
          Go.ofOpt (without? buf ((groups.take n).map giOf)) ∨
        (fT ≤ n ∧ (Translated.without_loop1 groups fT buf (Int64.ofNat n - 1) >>= fun t => pure t.1) = .error .fuel) := by
    intro n buf fT
    induction fT generalizing n buf with
    | zero => exact fun _ => Or.inr ⟨Nat.zero_le _, rfl⟩
    | succ f ih =>
      intro hn
      cases n with
      | zero => left; rw [Translated.without_loop1, i64_negOne_not_nonneg]; rfl
      | succ n =>
        have hlt : n < groups.length := by omega
        rw [Translated.without_loop1, i64_ofNat_pred, i64_ofNat_nonneg (by omega), if_pos rfl, idx_getElem _ hlt (by omega), M.ok_bind]
        dsimp only
        rw [tr_cut buf groups[n] (hok _ (List.getElem_mem hlt)) fun b => Translated.without_loop1 groups f b (Int64.ofNat n - 1),
          List.take_succ_eq_append_getElem hlt, List.map_append, without?, List.reverse_append, List.map_singleton, List.reverse_singleton,
          List.singleton_append, List.foldlM_cons]
        cases cut? buf (giOf groups[n]).begin (giOf groups[n]).end_ with
        | none => exact Or.inl rfl
        | some d => exact (ih n d (by omega)).imp_right (And.imp_left Nat.succ_le_succ)
  have h := loop groups.length data fuel (Nat.le_refl _)
  rwa [List.take_length] at h

/-- **`without(data, groups...)` of /repo is the model's `without?`** for groups with usable bounds -/
theorem tr_without (data : List UInt64) (groups : List Translated.groupInfo) (fuel : Nat) (hok : ∀ g ∈ groups, GOK g)
    (hl : groups.length < 2 ^ 62) (hf : groups.length < fuel) :
    Translated.without data groups fuel =
      match without? data (groups.map giOf) with
      | some d => .ok d
      | none => .error .runtime := by
  rcases tr_without_fuel data groups fuel hok hl with h | ⟨hle, _⟩
  · rw [h]
    cases without? data (groups.map giOf) <;> rfl
  · omega

end Rapid
