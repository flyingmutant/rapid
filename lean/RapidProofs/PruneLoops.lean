/-
  RapidProofs.PruneLoops — prune stability of the loops that discard rejected attempts:
  rejection sampling (`genUintNUnbiased`, `genUintNBiased`), `find` (Filter, Custom, regexp).
  The replay runs the same loop with at least as much fuel/tries left; the rejected attempts
  are absent from the pruned bits, so the replay accepts at its first attempt.  Each loop is
  one induction over the fuel whose step is `rep_group`.
  The `repeat` loop (collections, strings, maps, permutations, `T.Repeat`) likewise: rejected iterations are absent from
  the pruned bits; the replay runs from a state with the same `count`, no rejections and no forced stop; a forced stop
  recorded the word 0, which reads as "stop" under every positive continue-threshold.
-/
import RapidProofs.PruneStable

namespace Rapid

/-- the body of the groups of the integer primitives: one draw, returned -/
theorem rep_drawRet {A : Val → Prop} {n : Nat} {f : UInt64 → Val} : RepBy A (.draw n fun u => .ret (f u)) (.draw n fun u => .ret (f u)) :=
  rep_draw fun _ hu => ⟨hu, rep_ret⟩

theorem drawRet_res {n : Nat} {f : UInt64 → Val} {src : Src} {ts : TS} {v : Val}
    (h : ((Prog.draw n fun u => .ret (f u)).run src ts).res = .ok v) : ∃ u, v = f u := by
  simp only [Prog.run] at h
  cases hn : src.next n with
  | none => simp [hn, Out.ofRes] at h
  | some r => exact ⟨r.1, by simpa [hn, Out.ofRes] using h.symm⟩

theorem tp_drawRet {n : Nat} {f : UInt64 → Val} : TsPure (.draw n fun u => .ret (f u)) := tp_draw fun _ _ _ => rfl

theorem rep_uintUnbiased {max : UInt64} {k : UInt64 → Prog} (hk : ∀ u, PS (k u)) :
    ∀ (n d : Nat), RepBy (fun _ => True) (uintUnbiased max k n) (uintUnbiased max k (n + d)) := by
  intro n
  induction n with
  | zero => intro d; exact rep_of_not_good fun src ts => not_good_fuel rfl
  | succ n ih =>
    intro d
    rw [Nat.add_right_comm]
    refine rep_group rep_drawRet fk_draw.keepsOn (fun _ _ v _ hd => ?_) (fun src ts v _ hd => ⟨tp_drawRet src ts, ?_⟩)
    · have hle : vu v ≤ max := by simpa [UInt64.not_lt] using hd
      rw [if_pos hle, if_pos hle]; exact (hk _).rep
    · rw [if_neg (by simpa [UInt64.not_le] using hd)]; exact ih (d + 1)

theorem ps_uintUnbiased (max : UInt64) (k : UInt64 → Prog) (hk : ∀ u, PS (k u)) :
    ∀ (n m : Nat), n ≤ m → ∀ (src : Src) (ts : TS) (xs : List UInt64),
      Good ((uintUnbiased max k n).run src ts) → (((uintUnbiased max k n).run src ts).overran = true → xs = []) →
      Replayed ((uintUnbiased max k n).run src ts)
        ((uintUnbiased max k m).run (.buf (((uintUnbiased max k n).run src ts).kept ++ xs)) ts) xs := by
  intro n m hm src ts xs hg ho
  obtain ⟨d, rfl⟩ := Nat.le.dest hm
  exact rep_uintUnbiased hk n d src ts xs hg (fun _ _ => trivial) ho

/-- an attempt of the loop of `genUintNBiased` is discarded exactly when the value it stands for is out of range -/
theorem biased_discard (max : UInt64) (bitlen : Nat) (v : Val) :
    (!(decide (bitlen > 64) || decide (vu v ≤ max))) = !decide ((if bitlen > 64 then max else vu v) ≤ max) := by
  by_cases h : bitlen > 64 <;> simp [h]

theorem rep_uintBiasedLoop {max : UInt64} {g bitlen : Nat} {k : UInt64 → Bool → Bool → Prog} (hk : ∀ u l r, PS (k u l r)) :
    ∀ (n d : Nat), RepBy (fun _ => True) (uintBiasedLoop max g bitlen k n) (uintBiasedLoop max g bitlen k (n + d)) := by
  intro n
  induction n with
  | zero => intro d; exact rep_of_not_good fun src ts => not_good_fuel rfl
  | succ n ih =>
    intro d
    rw [Nat.add_right_comm]
    refine rep_group rep_drawRet fk_draw.keepsOn (fun _ _ v _ hd => ?_) (fun src ts v _ hd => ⟨tp_drawRet src ts, ?_⟩)
    · rw [biased_discard, Bool.not_eq_false', decide_eq_true_eq] at hd
      simp only [hd, if_true]; exact (hk _ _ _).rep
    · rw [biased_discard, Bool.not_eq_true', decide_eq_false_iff_not] at hd
      show RepBy _ (if (if bitlen > 64 then max else vu v) ≤ max then _ else _) _
      rw [if_neg hd]; exact ih (d + 1)

theorem ps_uintBiasedLoop (max : UInt64) (g bitlen : Nat) (k : UInt64 → Bool → Bool → Prog) (hk : ∀ u l r, PS (k u l r)) :
    ∀ (n m : Nat), n ≤ m → ∀ (src : Src) (ts : TS) (xs : List UInt64),
      Good ((uintBiasedLoop max g bitlen k n).run src ts) →
      (((uintBiasedLoop max g bitlen k n).run src ts).overran = true → xs = []) →
      Replayed ((uintBiasedLoop max g bitlen k n).run src ts)
        ((uintBiasedLoop max g bitlen k m).run (.buf (((uintBiasedLoop max g bitlen k n).run src ts).kept ++ xs)) ts) xs := by
  intro n m hm src ts xs hg ho
  obtain ⟨d, rfl⟩ := Nat.le.dest hm
  exact rep_uintBiasedLoop hk n d src ts xs hg (fun _ _ => trivial) ho

/-- `find`: a rejected attempt must leave the `*T` alone; an accepted one must replay and keep
    something (nothing is asked of the replay of a rejected attempt: its bits are pruned) -/
theorem rep_findLoop {body : Prog} {ok : Val → Bool} {k : Val → Prog}
    (hb : RepBy (fun v => ok v = true) body body)
    (hpure : ∀ (src : Src) (ts : TS) (v : Val), (body.run src ts).res = .ok v → ok v = false → (body.run src ts).ts = ts)
    (hne : KeepsOn (fun v => ok v = true) body)
    (hk : ∀ v, PS (k v)) : ∀ (n d : Nat), RepBy (fun _ => True) (findLoop body ok k n) (findLoop body ok k (n + d)) := by
  intro n
  induction n with
  | zero => intro d; exact rep_of_not_good fun src ts => not_good_invalid rfl
  | succ n ih =>
    intro d
    rw [Nat.add_right_comm]
    refine rep_group (fun src ts xs hg hA ho => hb src ts xs hg (fun v hv => by simpa using hA v hv) ho)
      (fun src ts v h hd => hne src ts v h (by simpa using hd)) (fun _ _ v _ hd => ?_)
      (fun src ts v h hd => ⟨hpure src ts v h (by simpa using hd), ?_⟩)
    · have hok : ok v = true := by simpa using hd
      rw [if_pos hok, if_pos hok]; exact (hk v).rep
    · rw [if_neg (by simpa using hd)]; exact ih (d + 1)

theorem ps_findLoop (body : Prog) (ok : Val → Bool) (k : Val → Prog)
    (hb : PS body) (hpure : TsPure body) (hne : KeepsSome body) (hk : ∀ v, PS (k v)) :
    ∀ (n m : Nat), n ≤ m → ∀ (src : Src) (ts : TS) (xs : List UInt64),
      Good ((findLoop body ok k n).run src ts) → (((findLoop body ok k n).run src ts).overran = true → xs = []) →
      Replayed ((findLoop body ok k n).run src ts)
        ((findLoop body ok k m).run (.buf (((findLoop body ok k n).run src ts).kept ++ xs)) ts) xs := by
  intro n m hm src ts xs hg ho
  obtain ⟨d, rfl⟩ := Nat.le.dest hm
  exact rep_findLoop hb.rep (fun src ts _ _ _ => hpure src ts) hne.on hk n d src ts xs hg (fun _ _ => trivial) ho

/-- the state `s'` of the replay when the original is in `s`: the same count, not forced (its rejection counter is never
    looked at: a rejected iteration is not replayed) -/
structure ReplayOf (s s' : RSt) : Prop where
  count : s'.count = s.count
  force : s'.force = false

theorem fk_coin {thr : UInt64} {k : Bool → Prog} : FirstKept (coin thr k) := fk_group_keep fk_draw

theorem rep_coin {A : Val → Prop} {thr : UInt64} {k k' : Bool → Prog} (hk : ∀ b, RepBy A (k b) (k' b)) : RepBy A (coin thr k) (coin thr k') :=
  rep_group rep_drawRet fk_draw.keepsOn (fun _ _ _ _ _ => hk _) (fun _ _ _ _ h => by cases h)

/-- a forced stop recorded the word 0 of a zero-bit draw; a real coin with a positive threshold reads it as "stop" -/
theorem rep_forced {A : Val → Prop} {thr : UInt64} (hthr : 0 < thr) {k k' : Bool → Prog} (hk : RepBy A (k false) (k' false)) :
    RepBy A (.group coinLabel false (.draw 0 fun _ => .ret vFalse) (fun _ => false) (fun _ => k false)) (coin thr k') := by
  refine rep_group (rep_draw fun u hu => ?_) fk_draw.keepsOn (fun src ts v h _ => ?_) (fun _ _ _ _ h => by cases h)
  · rw [mask_zero] at hu; subst hu
    rw [show decide (thr ≤ 0) = false from decide_eq_false (UInt64.not_le.mpr hthr)]
    exact ⟨by simp [mask], rep_ret⟩
  · obtain ⟨_, rfl⟩ := drawRet_res h; exact hk

theorem rep_moreCoin {A : Val → Prop} {c : RCfg} {s s' : RSt} (hthr : s.force = true → 0 < c.thr) (hr : ReplayOf s s')
    {k k' : Bool → Prog} (hk : ∀ b, RepBy A (k b) (k' b)) : RepBy A (moreCoin c s k) (moreCoin c s' k') := by
  rw [moreCoin, moreCoin, hr.count, hr.force]
  by_cases h1 : s.count < c.minC
  · rw [if_pos h1, if_pos h1]; exact rep_coin hk
  · rw [if_neg h1, if_neg h1, if_neg Bool.false_ne_true]
    by_cases h2 : s.force = true
    · rw [if_pos h2]
      split
      · exact rep_forced (by decide) (hk false)
      · exact rep_forced (hthr h2) (hk false)
    · rw [if_neg h2]; split <;> exact rep_coin hk

theorem fk_moreCoin {c : RCfg} {s : RSt} {k : Bool → Prog} : FirstKept (moreCoin c s k) := by
  intro src ts v
  rw [moreCoin_run]
  cases src.next (coinBits c s) with
  | none => nofun
  | some r => exact fun _ => List.cons_ne_nil _ _

theorem tp_moreCoin {c : RCfg} {s : RSt} {k : Bool → Prog} (hk : ∀ b, TsPure (k b)) : TsPure (moreCoin c s k) := by
  intro src ts
  rw [moreCoin_run]
  cases src.next (coinBits c s) with
  | none => rfl
  | some r => exact hk _ _ _

/-- the body of one iteration: the coin of `more`, then the loop body followed by the "too many rejections" check of `reject()` -/
def iterBody (c : RCfg) (step : Val → Prog) (s : RSt) (acc : Val) : Prog :=
  moreCoin c s fun cont =>
    if cont then
      (step acc) >>- fun r => if r == rRej && tooManyRejections c s then .throw (.invalid tooManyMsg) else .ret r
    else .ret rStop

theorem rep_guard (c : RCfg) (s s' : RSt) (r : Val) :
    RepBy (fun v => (v == rRej) = false)
      (if r == rRej && tooManyRejections c s then Prog.throw (.invalid tooManyMsg) else .ret r)
      (if r == rRej && tooManyRejections c s' then Prog.throw (.invalid tooManyMsg) else .ret r) := by
  cases hr : r == rRej with
  | false => simpa using rep_ret (v := r)
  | true =>
    intro src ts xs hg hA _
    exfalso
    cases ht : tooManyRejections c s
    · simpa [ht, hr] using hA r (by simp [ht, Prog.run, Out.ofRes])
    · exact not_good_invalid (m := tooManyMsg) (by simp [ht, Prog.run, Out.ofRes]) hg

theorem rep_iterBody {c : RCfg} {step : Val → Prog} (hstep : ∀ acc, PS (step acc))
    {s s' : RSt} (hthr : s.force = true → 0 < c.thr) (hr : ReplayOf s s') {acc : Val} :
    RepBy (fun v => (v == rRej) = false) (iterBody c step s acc) (iterBody c step s' acc) :=
  rep_moreCoin hthr hr fun b => by
    cases b
    · exact rep_ret
    · exact rep_bind (hstep acc).rep (rep_guard c s s')

theorem fk_iterBody {c : RCfg} {step : Val → Prog} {s : RSt} {acc : Val} : FirstKept (iterBody c step s acc) := fk_moreCoin

theorem tp_iterBody {c : RCfg} {step : Val → Prog} {s : RSt} {acc : Val} (hp : TsPure (step acc)) : TsPure (iterBody c step s acc) :=
  tp_moreCoin fun cont => by
    cases cont
    · exact fun _ _ => rfl
    · exact tp_bind hp fun r => by split <;> exact fun _ _ => rfl

theorem iterBody_res {c : RCfg} {step : Val → Prog} {s : RSt} {acc : Val} {src : Src} {ts : TS} {r : Val}
    (h : ((iterBody c step s acc).run src ts).res = .ok r) :
    ∃ w src', src.next (coinBits c s) = some (w, src') ∧
      (coinDecision c s w = false ∧ r = rStop ∨ coinDecision c s w = true ∧ ((step acc).run src' ts).res = .ok r) := by
  rw [iterBody, moreCoin_run] at h
  cases hn : src.next (coinBits c s) with
  | none => simp [hn, Out.ofRes] at h
  | some p =>
    obtain ⟨w, src'⟩ := p
    refine ⟨w, src', rfl, ?_⟩
    simp only [hn, after_res] at h
    cases hd : coinDecision c s w with
    | false => rw [hd] at h; exact Or.inl ⟨rfl, (ret_ok h).symm⟩
    | true =>
      rw [hd] at h
      obtain ⟨v, _, _, hv, h2⟩ := bind_res h
      split at h2
      · cases h2
      · rw [← ret_ok h2]; exact Or.inr ⟨rfl, hv⟩

def StepShape (step : Val → Prog) : Prop :=
  ∀ acc src ts v, ((step acc).run src ts).res = .ok v → v = rRej ∨ ∃ a, v = rAcc a

theorem repeatLoop_succ (c : RCfg) (step : Val → Prog) (k : Val → Prog) (fuel : Nat) (s : RSt) (acc : Val) :
    repeatLoop c step k (fuel + 1) s acc =
      .group (c.label ++ repeatSuffix) true (iterBody c step s acc) (fun r => r == rRej)
        (fun r =>
          match r with
          | .nil => k acc
          | .cons .nil acc' => repeatLoop c step k fuel { s with count := s.count + 1 } acc'
          | _ => repeatLoop c step k fuel { s with rejs := s.rejs + 1, force := s.force || s.rejs + 1 > s.count * 2 } acc) := rfl

theorem repeatLoop_next {P : Prog → Prop} {c : RCfg} {step : Val → Prog} {k : Val → Prog} {n : Nat} {s : RSt} {acc : Val}
    (hk : P (k acc)) (hl : ∀ s' acc', P (repeatLoop c step k n s' acc')) (r : Val) :
    P (match r with
      | .nil => k acc
      | .cons .nil acc' => repeatLoop c step k n { s with count := s.count + 1 } acc'
      | _ => repeatLoop c step k n { s with rejs := s.rejs + 1, force := s.force || s.rejs + 1 > s.count * 2 } acc) := by
  split
  · exact hk
  · exact hl _ _
  · exact hl _ _

/-- the loop body never calls `reject()` -/
def NoRej (step : Val → Prog) : Prop := ∀ acc src ts, ((step acc).run src ts).res ≠ .ok rRej

theorem rep_repeatLoop {c : RCfg} {step : Val → Prog} (hthr : 0 < c.thr ∨ NoRej step)
    (hstep : ∀ acc, PS (step acc)) (hpure : ∀ acc, TsPure (step acc)) (hshape : StepShape step)
    {k : Val → Prog} (hk : ∀ acc, PS (k acc)) :
    ∀ (n d : Nat) (s s' : RSt) (acc : Val), ReplayOf s s' → (NoRej step → s.force = false) →
      RepBy (fun _ => True) (repeatLoop c step k n s acc) (repeatLoop c step k (n + d) s' acc) := by
  intro n
  induction n with
  | zero => intro d s s' acc _ _; exact rep_of_not_good fun src ts => not_good_fuel rfl
  | succ n ih =>
    intro d s s' acc hr hnf
    have hthr' : s.force = true → 0 < c.thr := fun hfo => hthr.resolve_right fun h => by rw [hnf h] at hfo; cases hfo
    rw [Nat.add_right_comm, repeatLoop_succ, repeatLoop_succ]
    refine rep_group (rep_iterBody hstep hthr' hr) fk_iterBody.keepsOn
      (fun src ts v h hd => ?_) (fun src ts v h hd => ⟨tp_iterBody (hpure acc) src ts, ?_⟩)
    · obtain ⟨w, src', _, ⟨_, rfl⟩ | ⟨_, h2⟩⟩ := iterBody_res h
      · exact (hk acc).rep
      · rcases hshape acc src' ts v h2 with rfl | ⟨a, rfl⟩
        · cases hd
        · exact ih d _ { s' with count := s'.count + 1 } a ⟨by simp [hr.count], hr.force⟩ hnf
    · -- rejected: the whole iteration is pruned; the replay has not moved
      obtain rfl : v = rRej := by simpa using hd
      rw [← repeatLoop_succ]
      refine ih (d + 1) _ s' acc ⟨hr.count, hr.force⟩ fun hno => ?_
      obtain ⟨w, src', _, ⟨_, h2⟩ | ⟨_, h2⟩⟩ := iterBody_res h
      · cases h2
      · exact absurd h2 (hno acc src' ts)

theorem ps_repeatLoop (c : RCfg) (step : Val → Prog) (hthr : 0 < c.thr ∨ NoRej step)
    (hstep : ∀ acc, PS (step acc)) (hpure : ∀ acc, TsPure (step acc)) (hshape : StepShape step)
    (k : Val → Prog) (hk : ∀ acc, PS (k acc)) :
    ∀ (n m : Nat), n ≤ m → ∀ (s s' : RSt) (acc : Val), ReplayOf s s' → (s.force = true → s.count ≥ c.minC) →
      (NoRej step → s.force = false) →
      ∀ (src : Src) (ts : TS) (xs : List UInt64),
        Good ((repeatLoop c step k n s acc).run src ts) →
        (((repeatLoop c step k n s acc).run src ts).overran = true → xs = []) →
        Replayed ((repeatLoop c step k n s acc).run src ts)
          ((repeatLoop c step k m s' acc).run (.buf (((repeatLoop c step k n s acc).run src ts).kept ++ xs)) ts) xs := by
  intro n m hm s s' acc hr _ hnf src ts xs hg ho
  obtain ⟨d, rfl⟩ := Nat.le.dest hm
  exact rep_repeatLoop hthr hstep hpure hshape hk n d s s' acc hr hnf src ts xs hg (fun _ _ => trivial) ho

end Rapid
