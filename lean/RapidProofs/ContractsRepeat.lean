/-
  RapidProofs.ContractsRepeat — `repeat` (utils.go): whatever the bit source, a collection loop
  hands on an accumulator built from a number of accepted elements between `minCount` and
  `maxCount`, or ends in an error — it never stops early and never runs past the maximum.
-/
import RapidProofs.PruneLoops

namespace Rapid

/-- `p k` continues as `k a` for some `a` with `P a` (from some later source and `*T`), or ends
    in an error; `k` ranges over every continuation, so in the second case `k` was not called -/
def Reaches {α : Type} (p : (α → Prog) → Prog) (P : α → Prop) : Prop :=
  ∀ (k : α → Prog) (src : Src) (ts : TS),
    (∃ a, P a ∧ ∃ src' ts' used kept toks evs ov,
        (p k).run src ts = ((k a).run src' ts').after used kept toks evs ov) ∨
    (∃ e, ((p k).run src ts).res = .error e)

section
variable {α : Type} {P : α → Prop}

theorem Reaches.here {a : α} (h : P a) : Reaches (fun k => k a) P :=
  fun _ src ts => Or.inl ⟨a, h, src, ts, [], [], [], [], false, (after_nil _).symm⟩

/-- `c k v` is what follows the group; the body does not mention `k` -/
theorem Reaches.group {l : String} {s : Bool} {b : Prog} {d : Val → Bool} {c : (α → Prog) → Val → Prog}
    (h : ∀ src ts v, (b.run src ts).res = .ok v → Reaches (fun k => c k v) P) : Reaches (fun k => .group l s b d (c k)) P := by
  intro k src ts
  cases hres : (b.run src ts).res with
  | error e => exact Or.inr ⟨e, by rw [group_run_error hres]; exact hres⟩
  | ok v =>
    by_cases hc : d v = true ∨ (b.run src ts).used ≠ []
    · rw [group_run_cont hres hc]
      rcases h src ts v hres k (b.run src ts).src (b.run src ts).ts with ⟨a, ha, s', t', u, kk, tk, ev, ov, hrun⟩ | ⟨e, he⟩
      · exact Or.inl ⟨a, ha, s', t', _, _, _, _, _, by rw [hrun, after_after]⟩
      · exact Or.inr ⟨e, he⟩
    · exact Or.inr ⟨_, by rw [group_run_assert hres hc]⟩

end

theorem Reaches.res {α : Type} {p : (α → Prog) → Prog} {P : α → Prop} (h : Reaches p P) {k : α → Prog} {src : Src} {ts : TS} {v : Val}
    (hv : ((p k).run src ts).res = .ok v) : ∃ a, P a ∧ ∃ src' ts', ((k a).run src' ts').res = .ok v := by
  rcases h k src ts with ⟨a, ha, s', t', u, kk, tk, ev, ov, hrun⟩ | ⟨e, he⟩
  · rw [hrun, after_res] at hv; exact ⟨a, ha, s', t', hv⟩
  · rw [he] at hv; cases hv

section
variable (c : RCfg) (hmm : c.minC ≤ c.maxC) (step : Val → Prog) (hshape : StepShape step)
include hmm hshape

theorem iter_cases {s : RSt} {acc : Val} {src : Src} {ts : TS} {r : Val}
    (h : ((iterBody c step s acc).run src ts).res = .ok r) :
    (r = rStop ∧ c.minC ≤ s.count) ∨ r = rRej ∨
    (∃ a src1 ts1, r = rAcc a ∧ s.count < c.maxC ∧ ((step acc).run src1 ts1).res = .ok (rAcc a)) := by
  obtain ⟨w, src', hn, ⟨hd, rfl⟩ | ⟨hd, h2⟩⟩ := iterBody_res h
  · -- the coin said stop: it cannot below the minimum (`thrAlways = 0`)
    refine Or.inl ⟨rfl, Nat.le_of_not_lt fun hc1 => ?_⟩
    simp [coinDecision, hc1, thrAlways] at hd
  · rcases hshape acc src' ts r h2 with rfl | ⟨a, rfl⟩
    · exact Or.inr (Or.inl rfl)
    · -- the coin said go on: it cannot at the maximum (a 53-bit word is below `thrNever`), nor when forced
      refine Or.inr (Or.inr ⟨a, src', ts, rfl, Nat.lt_of_not_le fun hc2 => ?_, h2⟩)
      have hc1 : ¬ s.count < c.minC := by omega
      cases hf : s.force with
      | true => simp [coinDecision, hc1, hf] at hd
      | false =>
        rw [show coinBits c s = 53 by simp [coinBits, hc1, hf]] at hn
        have hd : thrNever ≤ w := by simpa [coinDecision, hc1, hf, hc2] using hd
        exact absurd (next53_lt hn) (UInt64.not_lt.mpr hd)

/-- **the contract of every `repeat` loop**: `m` counts accepted elements, `I` is any invariant
    of the accumulator that accepted steps preserve -/
theorem reaches_repeatLoop_inv (m : Val → Nat) (I : Val → Prop)
    (hstep : ∀ acc src ts a, I acc → m acc < c.maxC → ((step acc).run src ts).res = .ok (rAcc a) → m a = m acc + 1 ∧ I a) :
    ∀ (fuel : Nat) (s : RSt) (acc : Val), s.count ≤ c.maxC → m acc = s.count → I acc →
      Reaches (fun k => repeatLoop c step k fuel s acc) (fun a => c.minC ≤ m a ∧ m a ≤ c.maxC ∧ I a) := by
  intro fuel
  induction fuel with
  | zero => intro s acc _ _ _ k src ts; exact Or.inr ⟨.fuel, rfl⟩
  | succ fuel ih =>
    intro s acc hs hm hI
    simp only [repeatLoop_succ]
    refine Reaches.group fun src ts r hres => ?_
    rcases iter_cases c hmm step hshape hres with ⟨rfl, hmin⟩ | rfl | ⟨a, src1, ts1, rfl, hlt, hst⟩
    · exact .here ⟨by omega, by omega, hI⟩
    · exact ih { s with rejs := s.rejs + 1, force := s.force || decide (s.rejs + 1 > s.count * 2) } acc hs hm hI
    · have hma := hstep acc src1 ts1 a hI (hm ▸ hlt) hst
      exact ih { s with count := s.count + 1 } a (by simp; omega) (by simp; omega) hma.2

theorem reaches_repeatLoop (m : Val → Nat)
    (hstep : ∀ acc src ts a, ((step acc).run src ts).res = .ok (rAcc a) → m a = m acc + 1) :
    ∀ (fuel : Nat) (s : RSt) (acc : Val), s.count ≤ c.maxC → m acc = s.count →
      Reaches (fun k => repeatLoop c step k fuel s acc) (fun a => c.minC ≤ m a ∧ m a ≤ c.maxC) := by
  intro fuel s acc hs hm k src ts
  rcases reaches_repeatLoop_inv c hmm step hshape m (fun _ => True)
      (fun acc src ts a _ _ h => ⟨hstep acc src ts a h, trivial⟩) fuel s acc hs hm trivial k src ts with ⟨a, ha, rest⟩ | h
  · exact Or.inl ⟨a, ⟨ha.1, ha.2.1⟩, rest⟩
  · exact Or.inr h

end

theorem reaches_findLoop (body : Prog) (ok : Val → Bool) : ∀ n,
    Reaches (fun k => findLoop body ok k n) (fun v => ok v = true ∧ ∃ src ts, (body.run src ts).res = .ok v)
  | 0 => fun k src ts => Or.inr ⟨_, rfl⟩
  | n+1 => Reaches.group fun src ts v hres => by
      by_cases hok : ok v = true
      · simp only [if_pos hok]; exact .here ⟨hok, src, ts, hres⟩
      · simp only [if_neg hok]; exact reaches_findLoop body ok n

end Rapid
