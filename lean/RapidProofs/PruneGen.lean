/-
  RapidProofs.PruneGen — every built-in generator is prune-stable (L-PS for `Gen`), leaves the
  `*T` alone, keeps at least one word when it succeeds, and so does each of its kept groups.
  Callbacks (`Filter` predicates, `Map` and key functions) are arbitrary Lean functions; `Custom`
  bodies are required to be prune-stable, quiet and to keep a word themselves (A-pure).

  `FirstKept` is a fact about a primitive whatever follows it; the other three (`Tame`) pass from the
  continuation to the whole, so each primitive has one lemma of each kind (`findLoop` and `repeatLoop`, which only
  occur with tame continuations, one for both: `ok_findLoop`, `ok_repeatLoop`).
-/
import RapidProofs.Contracts
import RapidProofs.PruneLoops

namespace Rapid

theorem fk_uintUnbiased {max : UInt64} {k : UInt64 → Prog} : ∀ n, FirstKept (uintUnbiased max k n)
  | 0 => fk_throw
  | n+1 => fk_group fk_draw.keepsOn fun _ _ v _ hd => by
      rw [if_neg (by simpa [UInt64.not_le] using hd)]; exact fk_uintUnbiased n

theorem fk_uintBiasedLoop (max : UInt64) (g bl : Nat) (k : UInt64 → Bool → Bool → Prog) :
    ∀ n, FirstKept (uintBiasedLoop max g bl k n)
  | 0 => fk_throw
  | n+1 => fk_group fk_draw.keepsOn fun _ _ v _ hd => by
      rw [biased_discard, Bool.not_eq_true', decide_eq_false_iff_not] at hd
      show FirstKept (if (if bl > 64 then max else vu v) ≤ max then _ else _)
      rw [if_neg hd]; exact fk_uintBiasedLoop max g bl k n

theorem fk_uintN {ft : FT} {max : UInt64} {bias : Bool} {fuel : Nat} {k : UInt64 → Bool → Bool → Prog} :
    FirstKept (uintN ft max bias fuel k) :=
  iteInduction (fun _ => fk_group_keep fk_draw) fun _ => fk_uintUnbiased _

theorem fk_uintRange {ft : FT} {min max : UInt64} {bias : Bool} {fuel : Nat} {k : UInt64 → Bool → Bool → Prog} :
    FirstKept (uintRange ft min max bias fuel k) :=
  iteInduction (fun _ => fk_throw) fun _ => fk_uintN

theorem fk_index {ft : FT} {n : Nat} {bias : Bool} {fuel : Nat} {k : Nat → Prog} : FirstKept (index ft n bias fuel k) :=
  iteInduction (fun _ => fk_throw) fun _ => fk_uintN

theorem fk_intRange {ft : FT} {min max : Int64} {fuel : Nat} {k : Int64 → Bool → Bool → Prog} :
    FirstKept (intRange ft min max fuel k) :=
  iteInduction (fun _ => fk_throw) fun _ => fk_coin

theorem fk_uintNoReject (max : UInt64) (k : UInt64 → Prog) : FirstKept (uintNoReject max k) :=
  fk_group_keep fk_draw

theorem fk_ufloatRange (ft : FT) (f : FFmt) (min max : UInt64) (fuel : Nat) (k : Int → UInt64 → UInt64 → Prog) :
    FirstKept (ufloatRange ft f min max fuel k) :=
  iteInduction (fun _ => fk_throw) fun _ => fk_group_keep fk_intRange

/-- prune-stable, leaves the `*T` alone, and every kept group keeps a word -/
structure Tame (p : Prog) : Prop where
  ps : PS p
  pure : TsPure p
  gk : GK p

theorem gk_bind {p : Prog} (hp : GK p) {f : Val → Prog} (hf : ∀ v, GK (f v)) : GK (p >>- f) := by
  induction hp with
  | ret v => exact hf v
  | _ => constructor <;> assumption

theorem tame_ret {v : Val} : Tame (.ret v) := ⟨ps_ret v, fun _ _ => rfl, .ret v⟩
theorem tame_throw {e : Err} : Tame (.throw e) := ⟨ps_throw e, fun _ _ => rfl, .throw e⟩

theorem tame_drawRet {n : Nat} {f : UInt64 → Val} : Tame (.draw n fun u => .ret (f u)) :=
  ⟨rep_drawRet.ps, tp_drawRet, .draw _ _ fun _ => .ret _⟩

theorem tame_bind {p : Prog} {f : Val → Prog} (hp : Tame p) (hf : ∀ v, Tame (f v)) : Tame (p >>- f) :=
  ⟨ps_bind hp.ps fun v => (hf v).ps, tp_bind hp.pure fun v => (hf v).pure, gk_bind hp.gk fun v => (hf v).gk⟩

/-- a group whose replay is known: a loop that discards, or a group that never does -/
theorem tame_group {l : String} {s : Bool} {b : Prog} {d : Val → Bool} {k : Val → Prog} (hps : PS (.group l s b d k))
    (hbp : TsPure b) (hbg : GK b)
    (hkeep : KeepsOn (fun v => d v = false) b)
    (hk : ∀ v, Tame (k v)) : Tame (.group l s b d k) :=
  ⟨hps, tp_group hbp fun v => (hk v).pure, .group l s b d k hbg (fun v => (hk v).gk) hkeep⟩

theorem tame_group_keep {l : String} {s : Bool} {b : Prog} {k : Val → Prog} (hb : Tame b) (hfk : FirstKept b)
    (hk : ∀ v, Tame (k v)) : Tame (.group l s b (fun _ => false) k) :=
  tame_group (ps_group_keep hb.ps (fun v => (hk v).ps) hfk.keepsSome) hb.pure hb.gk hfk.keepsOn hk

/-- the coins, `genUintNNoReject`, the bias group of `genUintNBiased` -/
theorem tame_drawGroup {l : String} {s : Bool} {n : Nat} {f : UInt64 → Val} {k : Val → Prog} (hk : ∀ v, Tame (k v)) :
    Tame (.group l s (.draw n fun u => .ret (f u)) (fun _ => false) k) :=
  tame_group_keep tame_drawRet fk_draw hk

theorem tame_uintUnbiased {max : UInt64} {k : UInt64 → Prog} (hk : ∀ u, Tame (k u)) : ∀ n, Tame (uintUnbiased max k n)
  | 0 => tame_throw
  | n+1 =>
    tame_group (rep_uintUnbiased (fun u => (hk u).ps) (n + 1) 0).ps tp_drawRet tame_drawRet.gk fk_draw.keepsOn
      fun v => by split; exact hk _; exact tame_uintUnbiased hk n

theorem tame_uintBiasedLoop {max : UInt64} {g bl : Nat} {k : UInt64 → Bool → Bool → Prog} (hk : ∀ u l r, Tame (k u l r)) :
    ∀ n, Tame (uintBiasedLoop max g bl k n)
  | 0 => tame_throw
  | n+1 =>
    tame_group (rep_uintBiasedLoop (fun u l r => (hk u l r).ps) (n + 1) 0).ps tp_drawRet tame_drawRet.gk fk_draw.keepsOn
      fun v => by
        dsimp only; generalize (if bl > 64 then max else vu v) = u
        split; exact hk _ _ _; exact tame_uintBiasedLoop hk n

theorem tame_uintN {ft : FT} {max : UInt64} {bias : Bool} {fuel : Nat} {k : UInt64 → Bool → Bool → Prog}
    (hk : ∀ u l r, Tame (k u l r)) : Tame (uintN ft max bias fuel k) :=
  iteInduction (fun _ => tame_drawGroup fun _ => tame_uintBiasedLoop hk _) fun _ => tame_uintUnbiased (fun u => hk u false false) _

theorem tame_uintRange {ft : FT} {min max : UInt64} {bias : Bool} {fuel : Nat} {k : UInt64 → Bool → Bool → Prog}
    (hk : ∀ u l r, Tame (k u l r)) : Tame (uintRange ft min max bias fuel k) :=
  iteInduction (fun _ => tame_throw) fun _ => tame_uintN fun _ l r => hk _ l r

theorem tame_index {ft : FT} {n : Nat} {bias : Bool} {fuel : Nat} {k : Nat → Prog} (hk : ∀ i, Tame (k i)) :
    Tame (index ft n bias fuel k) :=
  iteInduction (fun _ => tame_throw) fun _ => tame_uintN fun _ _ _ => hk _

theorem tame_intRange {ft : FT} {min max : Int64} {fuel : Nat} {k : Int64 → Bool → Bool → Prog}
    (hk : ∀ i l r, Tame (k i l r)) : Tame (intRange ft min max fuel k) :=
  iteInduction (fun _ => tame_throw) fun _ => tame_drawGroup fun _ =>
    iteInduction (fun _ => tame_uintRange fun _ _ _ => hk _ _ _) fun _ => tame_uintRange fun _ _ _ => hk _ _ _

theorem tame_moreCoin {c : RCfg} {s : RSt} {k : Bool → Prog} (hk : ∀ b, Tame (k b)) : Tame (moreCoin c s k) :=
  have hc : ∀ thr, Tame (coin thr k) := fun _ => tame_drawGroup fun _ => hk _
  iteInduction (fun _ => hc _) fun _ => iteInduction (fun _ => tame_drawGroup fun _ => hk _) fun _ =>
    iteInduction (fun _ => hc _) fun _ => hc _

theorem tame_ufloatRange {ft : FT} {f : FFmt} {min max : UInt64} {fuel : Nat} {k : Int → UInt64 → UInt64 → Prog}
    (hk : ∀ e si sf, Tame (k e si sf)) : Tame (ufloatRange ft f min max fuel k) :=
  iteInduction (fun _ => tame_throw) fun _ =>
    tame_group_keep (tame_intRange fun _ _ _ => tame_ret) fk_intRange fun _ =>
      tame_group_keep
        (tame_uintRange fun _ _ _ => tame_drawGroup fun _ => tame_uintRange fun _ _ _ => tame_ret) fk_uintRange
        fun _ => hk _ _ _

structure GenGood (p : Prog) : Prop where
  ps : PS p
  pure : TsPure p
  fk : FirstKept p

/-- `GenGood` with `GK` on top (every kept group inside, at any depth, keeps a word: the closing assertion of `prune()`,
    `pruned_noEmpty`); `gen_ok` proves this form by induction over `Gen`, `gen_good` states the weaker one -/
structure GenOK (p : Prog) : Prop extends Tame p where
  fk : FirstKept p

theorem GenOK.good {p : Prog} (h : GenOK p) : GenGood p := ⟨h.ps, h.pure, h.fk⟩

theorem ok_value {b : Prog} (l : String) (h : GenOK b) : GenOK (wrapValue l b) :=
  ⟨tame_group_keep h.toTame h.fk fun _ => tame_ret, fk_group_keep h.fk⟩

theorem ok_bind_ret {p : Prog} (h : GenOK p) (f : Val → Val) : GenOK (p >>- fun v => .ret (f v)) :=
  ⟨tame_bind h.toTame fun _ => tame_ret, fk_bind_left h.fk⟩

theorem ok_findLoop {body : Prog} {ok : Val → Bool} {k : Val → Prog}
    (hb : RepBy (fun v => ok v = true) body body) (hbp : TsPure body) (hbg : GK body)
    (hne : KeepsOn (fun v => ok v = true) body)
    (hk : ∀ v, Tame (k v)) : ∀ n, GenOK (findLoop body ok k n)
  | 0 => ⟨tame_throw, fk_throw⟩
  | n+1 =>
    have hne' : KeepsOn (fun v => (!ok v) = false) body := fun src ts v h hd => hne src ts v h (by simpa using hd)
    ⟨tame_group (rep_findLoop hb (fun src ts _ _ _ => hbp src ts) hne (fun v => (hk v).ps) (n + 1) 0).ps hbp hbg hne'
        fun v => by split; exact hk v; exact (ok_findLoop hb hbp hbg hne hk n).toTame,
      fk_group hne' fun _ _ v _ hd => by rw [if_neg (by simpa using hd)]; exact (ok_findLoop hb hbp hbg hne hk n).fk⟩

/-- every `Custom` function inside the generator expression satisfies `B` (Custom bodies are user
    code: see RapidProofs/PruneCustom.lean for the conditions) -/
def Gen.CustomsIn (B : Prog → Prop) : Gen → Prop
  | .bool | .uint _ _ | .int _ _ | .sampled _ | .perm _ | .runeFrom _ | .float _ _ _ => True
  | .oneOf _ g => ∀ i, (g i).CustomsIn B
  | .filter g _ | .map g _ | .ptr g _ | .deferred g | .asAny g => g.CustomsIn B
  | .slice el _ _ | .distinct el _ _ _ | .mapOfValues el _ _ _ | .stringOf el _ _ _ => el.CustomsIn B
  | .mapOf kg vg _ _ => kg.CustomsIn B ∧ vg.CustomsIn B
  | .custom body => B body

def Gen.NoCustom (g : Gen) : Prop := g.CustomsIn (fun _ => False)

/-- the continue-threshold of every collection is positive (true of every `pContinue < 1`) -/
def RTPos (e : Env) : Prop := ∀ a b, 0 < e.rt.rep a b

theorem ss_acc (f : Val → Prog) (h : ∀ acc src ts v, ((f acc).run src ts).res = .ok v → v = rRej ∨ ∃ a, v = rAcc a) : StepShape f := h

theorem ok_repeatLoop {c : RCfg} {step : Val → Prog} (hthr : 0 < c.thr ∨ NoRej step) (hstep : ∀ acc, Tame (step acc))
    (hshape : StepShape step) {k : Val → Prog} (hk : ∀ acc, Tame (k acc)) {fuel : Nat} {init : Val} :
    GenOK (repeatLoop c step k fuel {} init) := by
  suffices h : ∀ n s acc, TsPure (repeatLoop c step k n s acc) ∧ GK (repeatLoop c step k n s acc) ∧
      FirstKept (repeatLoop c step k n s acc) from
    ⟨⟨(rep_repeatLoop hthr (fun acc => (hstep acc).ps) (fun acc => (hstep acc).pure) hshape
      (fun acc => (hk acc).ps) fuel 0 {} {} init ⟨rfl, rfl⟩ fun _ => rfl).ps, (h _ _ _).1, (h _ _ _).2.1⟩, (h _ _ _).2.2⟩
  intro n
  induction n with
  | zero => intro s acc; exact ⟨tame_throw.pure, tame_throw.gk, fk_throw⟩
  | succ n ih =>
    intro s acc
    rw [repeatLoop_succ]
    have hb : Tame (iterBody c step s acc) := tame_moreCoin fun cont => by
      cases cont
      · exact tame_ret
      · exact tame_bind (hstep acc) fun r => by split; exact tame_throw; exact tame_ret
    refine ⟨tp_group hb.pure (repeatLoop_next (hk acc).pure fun _ _ => (ih _ _).1),
      .group _ _ _ _ _ hb.gk (repeatLoop_next (hk acc).gk fun _ _ => (ih _ _).2.1) fk_iterBody.keepsOn,
      -- the loop keeps the coin word of its last (stopping) or first accepted iteration
      fk_group fk_iterBody.keepsOn fun _ _ v _ hd => ?_⟩
    obtain rfl : v = rRej := by simpa using hd
    exact (ih _ _).2.2

theorem stepShape_bind_ret (el : Prog) (g : Val → Val → Val) (hg : ∀ acc v, g acc v = rRej ∨ ∃ a, g acc v = rAcc a) :
    StepShape (fun acc => el >>- fun v => .ret (g acc v)) := by
  intro acc src ts v h
  obtain ⟨w, rfl⟩ := bind_ret_res el (g acc) src ts v h
  exact hg acc w

theorem ok_repeat {c : RCfg} (hthr : 0 < c.thr) {el : Prog} (hel : GenOK el) {g : Val → Val → Val}
    (hg : ∀ acc v, g acc v = rRej ∨ ∃ a, g acc v = rAcc a) {fuel : Nat} {init : Val} :
    GenOK (repeatLoop c (fun acc => el >>- fun v => .ret (g acc v)) .ret fuel {} init) :=
  ok_repeatLoop (Or.inl hthr) (fun _ => (ok_bind_ret hel _).toTame) (stepShape_bind_ret el g hg) fun _ => tame_ret

/-- the step of `Permutation`'s loop: the element at position `i` changes places with one at a drawn position `j ≥ i` -/
def permStep (e : Env) (n : Nat) (acc : Val) : Prog :=
  match acc with
  | .cons (.int i) sl =>
    uintRange e.ft (UInt64.ofNat i.toNat) (UInt64.ofNat (n - 1)) false e.fuel fun j _ _ =>
      .ret (rAcc (.cons (.int (i + 1)) (Val.ofList (swapAt sl.toList i.toNat j.toNat))))
  | _ => .ret (rAcc acc)

theorem permStep_res {e : Env} {n : Nat} {i : Int} {sl : Val} {src : Src} {ts : TS} {r : Val}
    (h : ((permStep e n (.cons (.int i) sl)).run src ts).res = .ok r) :
    ∃ j : UInt64, UInt64.ofNat i.toNat ≤ j ∧ j ≤ UInt64.ofNat (n - 1) ∧
      r = rAcc (.cons (.int (i + 1)) (Val.ofList (swapAt sl.toList i.toNat j.toNat))) := by
  rw [permStep] at h
  obtain ⟨j, _, _, _, h1, h2, hk⟩ := uintRange_res h
  exact ⟨j, h1, h2, (ret_ok hk).symm⟩

theorem permStep_acc {e : Env} {n : Nat} {acc : Val} {src : Src} {ts : TS} {r : Val} (h : ((permStep e n acc).run src ts).res = .ok r) :
    ∃ a, r = rAcc a := by
  unfold permStep at h
  split at h
  · obtain ⟨j, _, _, hr⟩ := permStep_res h; exact ⟨_, hr⟩
  · exact ⟨_, (ret_ok h).symm⟩

theorem rAcc_or (a : Val) (c : Prop) [Decidable c] : (if c then rRej else rAcc a) = rRej ∨ ∃ x, (if c then rRej else rAcc a) = rAcc x := by
  by_cases h : c
  · exact Or.inl (if_pos h)
  · exact Or.inr ⟨a, if_neg h⟩

/-- `B` is a class of good `Custom` functions (`RapidProofs.PruneCustom` supplies the classes) -/
theorem gen_ok (e : Env) (hrt : RTPos e) (B : Prog → Prop)
    (hB : ∀ (body : Prog) (lab : Bool), B body → GenOK (Gen.body e lab (.custom body))) :
    ∀ (g : Gen) (lab : Bool), g.CustomsIn B → GenOK (g.body e lab) := by
  -- for the literal configuration: `hrt _ _` against `0 < ?c.thr` with `?c` not yet known is slow to elaborate
  have hthr {mn mx : Nat} {l : String} : 0 < (⟨mn, mx, e.rt.rep mn mx, l⟩ : RCfg).thr := hrt _ _
  intro g
  induction g with
  | bool => intro _ _; exact ⟨tame_drawRet, fk_draw⟩
  | uint mn mx => intro _ _; exact ⟨tame_uintRange fun _ _ _ => tame_ret, fk_uintRange⟩
  | int mn mx => intro _ _; exact ⟨tame_intRange fun _ _ _ => tame_ret, fk_intRange⟩
  | sampled n => intro _ _; exact ⟨tame_index fun _ => tame_ret, fk_index⟩
  | float f mn mx =>
    intro _ _
    exact ⟨tame_drawGroup fun _ => iteInduction (fun _ => tame_ufloatRange fun _ _ _ => tame_ret) fun _ =>
      tame_ufloatRange fun _ _ _ => tame_ret, fk_group_keep fk_draw⟩
  | runeFrom runes =>
    intro _ _
    exact ⟨tame_group_keep (tame_index fun _ => tame_ret) fk_index fun v => by split <;> exact tame_index fun _ => tame_ret,
      fk_group_keep fk_index⟩
  | oneOf n gs ih => intro lab h; exact ⟨tame_index fun i => (ok_value _ (ih i _ (h i))).toTame, fk_index⟩
  | filter g p ih =>
    intro lab h
    have hb := ok_bind_ret (ok_value (g.lbl lab) (ih lab h)) (fun v => if p v then .cons v .nil else .nil)
    exact ok_findLoop hb.ps.rep hb.pure hb.gk hb.fk.keepsOn (fun r => by split <;> exact tame_ret) _
  | map g f ih => intro lab h; exact ok_bind_ret (ok_value _ (ih _ h)) f
  | deferred g ih | asAny g ih => intro lab h; exact ok_value _ (ih _ h)
  | ptr el allowNil ih =>
    intro lab h
    have hv := ok_bind_ret (ok_value (el.lbl lab) (ih lab h)) (fun v => .cons v .nil)
    exact ⟨tame_drawGroup fun _ => iteInduction (fun _ => hv.toTame) fun _ => tame_ret, fk_coin⟩
  | custom body => intro lab h; exact hB body lab h
  -- the collections: `repeat` around the draw of one element, which is appended or rejected
  | slice el mn mx ih => intro lab h; exact ok_repeat hthr (ok_value _ (ih _ h)) fun acc v => Or.inr ⟨_, rfl⟩
  | distinct el mn mx key ih | mapOfValues el mn mx key ih =>
    intro lab h; exact ok_repeat hthr (ok_value _ (ih _ h)) fun acc v => rAcc_or _ _
  | stringOf el mnr mxr ml ih =>
    intro lab h
    refine ok_repeat hthr (ok_value _ (ih _ h)) fun acc v => ?_
    split
    · split
      · exact rAcc_or _ _
      · exact Or.inl rfl
    · exact Or.inl rfl
  | mapOf kg vg mn mx ihk ihv =>
    intro lab h
    have hk := ok_value kg.label (ihk true h.1)
    have hv := ok_value vg.label (ihv true h.2)
    refine ok_repeatLoop (Or.inl hthr) (fun acc => tame_bind hk.toTame fun k => tame_bind hv.toTame fun v => tame_ret)
      (fun acc src ts v hres => ?_) fun _ => tame_ret
    obtain ⟨k, w, rfl⟩ := bind2_ret_res _ _ _ src ts v hres
    exact rAcc_or _ _
  | perm n =>
    intro _ _
    have hstep : ∀ acc, Tame (permStep e n acc) := by
      intro acc; unfold permStep; split
      · exact tame_uintRange fun _ _ _ => tame_ret
      · exact tame_ret
    exact ok_repeatLoop (step := permStep e n) (Or.inr fun acc src ts h => by obtain ⟨a, ha⟩ := permStep_acc h; cases ha) hstep
      (fun acc src ts v h => Or.inr (permStep_acc h)) (fun acc => by split <;> exact tame_ret)

/-- **L-PS for generators**: every generator expression without `Custom` is prune-stable, leaves
    the `*T` alone and keeps a word when it succeeds -/
theorem gen_good (e : Env) (hrt : RTPos e) : ∀ (g : Gen) (lab : Bool), g.NoCustom → GenGood (g.body e lab) :=
  fun g lab h => (gen_ok e hrt (fun _ => False) (fun _ _ h => h.elim) g lab h).good

end Rapid
