/-
  RapidProofs.TranslatedFloatEq — `genUfloatRange` and `genFloatRange` of floats.go, as translated from
  /repo on every run (RapidModel/Generated/Translated.lean), run in lock-step with the model of
  RapidModel/Float.lean for the float64 format: same draws, same groups, the same exponent and
  significand parts handed on (`Sim`, RapidProofs/Sim.lean).
-/
import RapidProofs.ContractsFloat
import RapidProofs.TranslatedEq
import RapidProofs.TranslatedProgEq

namespace Rapid

open Rapid.Go

theorem dec_enc_utri (a : UInt64 × Bool × Bool) : (Enc.dec (Enc.enc a) : UInt64 × Bool × Bool) = a := by
  obtain ⟨i, l, r⟩ := a
  simp

theorem sim_genIntRange (fe : FEval) (ft : FT) (H : FloatFacts fe ft) (min max : Int64) (fuel : Nat) (hmm : min ≤ max) :
    Sim3 (Translated.genIntRange fe min max true fuel) (intRange ft min max fuel)
        (fun b a => b = a ∧ (min ≤ a.1 ∧ a.1 ≤ max) ∧ FlagsOK min max a) :=
  Spec.sim_of_runEq (fun _ => tr_genIntRange fe ft H min max fuel _ _ (fun _ _ _ => RunEq.refl _))
    (spec_intRange ft min max fuel hmm)

theorem sim_genUintRange (fe : FEval) (ft : FT) (H : FloatFacts fe ft) (min max : UInt64) (bias : Bool) (fuel : Nat) :
    Sim3 (Translated.genUintRange fe min max bias fuel) (uintRange ft min max bias fuel) (fun b a => b = a) :=
  Sim.of_runEq (fun _ => tr_genUintRange fe ft H min max bias fuel _ _ (fun _ _ _ => RunEq.refl _))
    (uniform_uintRange ft min max bias fuel)

theorem sim_genUintNNoReject (fe : FEval) (max : UInt64) (fuel : Nat) :
    Sim (Translated.genUintNNoReject fe max fuel) (uintNoReject max)
        (fun b a => b = a ∧ a ≤ max) :=
  Spec.sim_of_runEq (fun _ => tr_genUintNNoReject fe max fuel _ _ (fun _ => RunEq.refl _)) (spec_uintNoReject max)

theorem go_len64_toUInt64 (u : UInt64) : (Go.len64 u).toUInt64 = UInt64.ofNat (len64 u) := Int64.toUInt64_ofNat'

/-- what leaves the translated group body (`si, sfMin, maxR, r, sf`) against what leaves the model's
    (`si` and the significand after the bit-clearing loop, which the source runs after the group) -/
def SigRel (c : UInt64 × UInt64 × Int64 × UInt64 × UInt64) (c' : UInt64 × UInt64) : Prop :=
  c' = (c.1, Translated.ufloatClearLoop c.2.2.1 c.2.2.2.1 c.2.1 ((c.2.2.1.toUInt64 - c.2.2.2.1) - 0).toNat 0 c.2.2.2.2)

theorem clearLoop_eq {d r' sfMin sf : UInt64} (hr : r' ≤ UInt64.ofNat (len64 d)) :
    Translated.ufloatClearLoop (Go.len64 d) r' sfMin (((Go.len64 d).toUInt64 - r') - 0).toNat 0 sf =
      clearLow sfMin (len64 d - r'.toNat) 0 sf := by
  have h64 := len64_le_64 d
  have hsub : ((Go.len64 d).toUInt64 - r').toNat = len64 d - r'.toNat := by
    rw [go_len64_toUInt64, UInt64.toNat_sub_of_le _ _ hr, UInt64.toNat_ofNat_of_lt' (Nat.lt_of_le_of_lt h64 (by decide))]
  rw [UInt64.sub_zero, hsub]
  exact tr_clearLoop_cnt (Go.len64 d) r' sfMin (by omega) _ _ 0 sf (by rw [hsub]; exact Nat.zero_add _) (Nat.le_refl _)

theorem sim_signif (fe : FEval) (ft : FT) (H : FloatFacts fe ft) (e : Int64) (l r : Bool) (minExp maxExp : Int32)
    (minSI minSF maxSI maxSF : UInt64) (he : e.toInt32.toInt = e.toInt) (fuel : Nat) :
    Sim (fun (k : UInt64 × UInt64 × Int64 × UInt64 × UInt64 → Prog) =>
          Translated.genUintRange fe
            (Translated.ufloatSwitchSI e (Translated.ufloatFracBits e.toInt32 52) l maxExp maxSI minExp minSI r 52).1
            (Translated.ufloatSwitchSI e (Translated.ufloatFracBits e.toInt32 52) l maxExp maxSI minExp minSI r 52).2 false fuel fun si _ _ =>
            Translated.genUintNNoReject fe (Go.len64
                ((Translated.ufloatSwitchSF e (Translated.ufloatFracBits e.toInt32 52) l maxExp maxSF maxSI minExp minSF minSI r si).2 -
                 (Translated.ufloatSwitchSF e (Translated.ufloatFracBits e.toInt32 52) l maxExp maxSF maxSI minExp minSF minSI r si).1)).toUInt64
              fuel fun r' =>
              Translated.genUintRange fe
                (Translated.ufloatSwitchSF e (Translated.ufloatFracBits e.toInt32 52) l maxExp maxSF maxSI minExp minSF minSI r si).1
                (Translated.ufloatSwitchSF e (Translated.ufloatFracBits e.toInt32 52) l maxExp maxSF maxSI minExp minSF minSI r si).2
                false fuel fun sf _ _ =>
                k (si, (Translated.ufloatSwitchSF e (Translated.ufloatFracBits e.toInt32 52) l maxExp maxSF maxSI minExp minSF minSI r si).1,
                   Go.len64
                    ((Translated.ufloatSwitchSF e (Translated.ufloatFracBits e.toInt32 52) l maxExp maxSF maxSI minExp minSF minSI r si).2 -
                     (Translated.ufloatSwitchSF e (Translated.ufloatFracBits e.toInt32 52) l maxExp maxSF maxSI minExp minSF minSI r si).1),
                   r', sf))
        (ufloatSignif ft 52 (minExp.toInt, minSI, minSF) (maxExp.toInt, maxSI, maxSF) e.toInt l r fuel)
        SigRel := by
  have hfb : (Translated.ufloatFracBits e.toInt32 52).toNat = fracBits e.toInt (52 : UInt64).toNat := by
    rw [tr_fracBits, he]
  simp only [tr_switchSI e _ 52 l r maxExp minExp maxSI minSI minSF maxSF he hfb,
    tr_switchSF e _ 52 l r maxExp minExp maxSI minSI minSF maxSF _ he hfb, UInt64.reduceToNat, go_len64_toUInt64]
  unfold ufloatSignif
  refine Sim3.bind (sim_genUintRange fe ft H _ _ false fuel) ?_
  rintro si _ _ _ _ _ ⟨rfl, rfl, rfl⟩
  generalize sfBounds 52 (minExp.toInt, minSI, minSF) (maxExp.toInt, maxSI, maxSF) e.toInt l r si = fb
  obtain ⟨sfMin, sfMax⟩ := fb
  dsimp only
  refine (Sim.bind (sim_genUintNNoReject fe (UInt64.ofNat (len64 (sfMax - sfMin))) fuel) ?_ :)
  rintro r' _ ⟨rfl, hr⟩
  refine Sim3.bind (sim_genUintRange fe ft H sfMin sfMax false fuel) ?_
  rintro sf _ _ _ _ _ ⟨rfl, rfl, rfl⟩
  exact Sim.ret (by rw [SigRel, clearLoop_eq hr])

/-- the float64 operations of RapidModel/GoSem.lean are those of `fmt64` with its constants computed -/
theorem go_f64isNaN (a : UInt64) : Go.f64isNaN a = fmt64.isNaN a := rfl
theorem go_f64neg (a : UInt64) : Go.f64neg a = fmt64.fneg a := rfl

theorem go_f64le {a b : UInt64} (ha : fmt64.isNaN a = false) (hb : fmt64.isNaN b = false) :
    Go.f64le a b = fmt64.fle a b := by
  rw [Go.f64le, go_f64isNaN, go_f64isNaN, ha, hb]; rfl

theorem isNaN64_zero : fmt64.isNaN 0 = false := by decide

theorem go_f64_ge0 {a : UInt64} (ha : fmt64.isNaN a = false) : Go.f64le 0 a = fmt64.ge0 a := by
  rw [go_f64le isNaN64_zero ha, Bool.eq_iff_iff, fmt64.fle_iff, fmt64.ge0_iff, fmt64.key_zero]

theorem go_f64_le0 {a : UInt64} (ha : fmt64.isNaN a = false) : Go.f64le a 0 = fmt64.le0 a := by
  rw [go_f64le ha isNaN64_zero, Bool.eq_iff_iff, fmt64.fle_iff, fmt64.le0_iff, fmt64.key_zero]

theorem vTriGet_vTri (a : Int) (l r : Bool) : vTriGet (vTri a l r) = (a, l, r) := rfl

theorem i64_in_i32 {e : Int64} {a b : Int32} (h1 : a.toInt64 ≤ e) (h2 : e ≤ b.toInt64) : e.toInt32.toInt = e.toInt := by
  rw [Int64.le_iff_toInt_le, Int32.toInt_toInt64] at h1 h2
  have := Int32.le_toInt a; have := Int32.toInt_lt b
  rw [Int64.toInt_toInt32]
  apply Int.bmod_eq_of_le <;> omega

/-- (if the assertion `min >= 0 && min <= max` fails both sides panic; if it holds the magnitudes are in order) -/
theorem sim_ufloatRange64 (fe : FEval) (ft : FT) (H : FloatFacts fe ft) (min max : UInt64) (fuel : Nat)
    (hn0 : fmt64.isNaN min = false) (hn1 : fmt64.isNaN max = false) :
    Sim3 (Translated.genUfloatRange fe min max 52 fuel) (ufloatRange ft fmt64 min max fuel)
      (fun b a => b.1.toInt = a.1 ∧ b.2 = a.2) := by
  unfold Sim3
  simp only [Translated.genUfloatRange, ufloatRange, go_f64_ge0 hn0, go_f64le hn0 hn1]
  by_cases hassert : (fmt64.ge0 min && fmt64.fle min max) = true
  · have h5223 : ((52 : UInt64) == (23 : UInt64)) = false := by decide
    simp only [hassert, if_true, Bool.not_true, Bool.false_eq_true, if_false, h5223]
    -- the model's parts of `min` and `max` are read as the translated ones (`tr_parts64`) throughout
    have hb := (inRange_iff fmt64 wf64 ((ufloatAssert_iff fmt64 min max).mp hassert)).1
    rw [← tr_parts64 min, ← tr_parts64 max] at hb
    simp only [← tr_parts64 min, ← tr_parts64 max, Int64.ofInt_int32ToInt]
    refine Sim.bind (Sim.group "floatexp" false (sim_genIntRange fe ft H _ _ fuel
      (Int32.toInt64_le.mpr (Int32.le_iff_toInt_le.mpr hb.le.1))) (fun c => Enc.enc c) (fun c => vTri c.1.toInt c.2.1 c.2.2)
      fun _ _ _ => rfl) ?_
    rintro _ _ ⟨⟨e, l, r⟩, _, ⟨rfl, ⟨h1, h2⟩, _⟩, rfl, rfl⟩
    have he : e.toInt32.toInt = e.toInt := i64_in_i32 h1 h2
    simp only [dec_enc_pair, dec_enc_i64, dec_enc_bool, vTriGet_vTri]
    refine Sim.bind (Sim.group "floatsignif" false (sim_signif fe ft H e l r _ _ _ _ _ _ he fuel)
      (fun c => Enc.enc c) (fun x => .cons (uv x.1) (.cons (uv x.2) .nil)) fun _ _ _ => rfl) ?_
    rintro _ _ ⟨⟨si, sfMin, maxR, r', sf⟩, _, rfl, rfl, rfl⟩
    simp only [dec_enc_pair, dec_enc_i64, dec_enc_u64, vPairGet, vu_uv]
    exact Sim.ret ⟨he, rfl⟩
  · simp only [hassert, Bool.false_eq_true, if_false, Bool.not_false, if_true]
    exact Sim.throw _ _

theorem sim_genUfloatRange64 (fe : FEval) (ft : FT) (H : FloatFacts fe ft) (min max : UInt64) (fuel : Nat)
    (hn0 : fmt64.isNaN min = false) (hn1 : fmt64.isNaN max = false)
    (hle : (fmt64.mag min).toNat ≤ (fmt64.mag max).toNat) :
    Sim3 (Translated.genUfloatRange fe min max 52 fuel) (ufloatRange ft fmt64 min max fuel)
      (fun b a => b.1.toInt = a.1 ∧ b.2 = a.2) :=
  sim_ufloatRange64 fe ft H min max fuel hn0 hn1

theorem sim_coin {fe : FEval} {p : FX} {thr : UInt64} (h : CoinOK fe p thr) (fuel : Nat) :
    Sim (Translated.flipBiasedCoin fe p fuel) (coin thr) (fun b a => b = a) :=
  Sim.of_runEq (fun _ => CoinOK.runEq h fuel _ _ (fun _ => RunEq.refl _)) (spec_coin thr).uniform

/-- the relation between what the source and the model hand on: sign, exponent, both significand parts -/
def FloatRel (b : Bool × Int32 × UInt64 × UInt64) (a : Bool × Int × UInt64 × UInt64) : Prop :=
  b.1 = a.1 ∧ b.2.1.toInt = a.2.1 ∧ b.2.2 = a.2.2

theorem sim_genFloatRange64 (fe : FEval) (ft : FT) (H : FloatFacts fe ft) (HB : FloatFactsBits fe ft) (min max : UInt64)
    (fuel : Nat) (hok : floatRangeOK fmt64 min max = true) :
    Sim (fun (k : Bool × Int32 × UInt64 × UInt64 → Prog) => Translated.genFloatRange fe min max 52 fuel (fun s e si sf => k (s, e, si, sf)))
        (fun (k : Bool × Int × UInt64 × UInt64 → Prog) => floatRange ft fmt64 min max fuel (fun s e si sf => k (s, e, si, sf)))
        FloatRel := by
  obtain ⟨hn0, hn1, _⟩ := (floatRangeOK_iff fmt64 min max).mp hok
  -- the coin and the two calls of genUfloatRange, whichever way it falls
  have calls : ∀ (p : FX) (thr negMin posMin : UInt64), CoinOK fe p thr → fmt64.isNaN negMin = false → fmt64.isNaN posMin = false →
      Sim (fun k => Translated.flipBiasedCoin fe p fuel fun neg =>
            if neg = true then Translated.genUfloatRange fe negMin (fmt64.fneg min) 52 fuel fun e si sf => k (true, e, si, sf)
            else Translated.genUfloatRange fe posMin max 52 fuel fun e si sf => k (false, e, si, sf))
          (fun k => coin thr fun neg =>
            if neg = true then ufloatRange ft fmt64 negMin (fmt64.fneg min) fuel fun e si sf => k (true, e, si, sf)
            else ufloatRange ft fmt64 posMin max fuel fun e si sf => k (false, e, si, sf))
          FloatRel := by
    intro p thr negMin posMin hc h0 h1
    refine Sim.bind (sim_coin hc fuel) ?_
    rintro neg _ rfl
    refine Sim.ite _ (fun _ => ?_) (fun _ => ?_)
    · exact Sim3.bind (sim_ufloatRange64 fe ft H negMin (fmt64.fneg min) fuel h0 ((fmt64.isNaN_fneg wf64 min).trans hn0))
        fun _ _ _ _ _ _ ⟨h1, h2⟩ => Sim.ret ⟨rfl, h1, h2⟩
    · exact Sim3.bind (sim_ufloatRange64 fe ft H posMin max fuel h1 hn1) fun _ _ _ _ _ _ ⟨h1, h2⟩ => Sim.ret ⟨rfl, h1, h2⟩
  simp only [Translated.genFloatRange, floatRange, go_f64_ge0 hn0, go_f64_le0 hn1, go_f64neg]
  by_cases hge : fmt64.ge0 min = true
  · simp only [hge, if_true]
    exact calls _ _ 0 min HB.coinOK0 isNaN64_zero hn0
  · by_cases hle0 : fmt64.le0 max = true
    · simp only [hge, hle0, if_true]
      exact calls _ _ (fmt64.fneg max) 0 HB.coinOK1 ((fmt64.isNaN_fneg wf64 max).trans hn1) isNaN64_zero
    · simp only [hge, hle0]
      exact calls _ _ 0 0 HB.coinOKHalf isNaN64_zero isNaN64_zero

theorem tr_float64FromParts (sign : Bool) (e : Int32) (si sf : UInt64) :
    Translated.float64FromParts sign e si sf = fmt64.fromParts sign e.toInt si sf := by
  simp only [Translated.float64FromParts, FFmt.fromParts, tr_fromParts64, go_f64neg]

theorem go_f32neg (a : UInt32) : (Go.f32neg a).toUInt64 = fmt32.fneg a.toUInt64 := by
  rw [Go.f32neg, UInt32.toUInt64_xor]; rfl

theorem tr_float32FromParts (sign : Bool) (e : Int32) (si sf : UInt64) :
    (Translated.float32FromParts sign e si sf).toUInt64 = fmt32.fromParts sign e.toInt si sf := by
  rw [Translated.float32FromParts, FFmt.fromParts, ← tr_fromParts32]
  cases sign
  · rfl
  · exact go_f32neg _

/-- **`Float64Range(min, max)`: the source, draw by draw, is the model** — `float64FromParts(genFloatRange(s, min, max,
    float64SignifBits))` as translated from /repo hands on the bit pattern the model's `floatValue` hands on -/
theorem sim_float64Value (fe : FEval) (ft : FT) (H : FloatFacts fe ft) (HB : FloatFactsBits fe ft) (min max : UInt64)
    (fuel : Nat) (hok : floatRangeOK fmt64 min max = true) :
    Sim (fun (k : UInt64 → Prog) =>
          Translated.genFloatRange fe min max 52 fuel (fun s e si sf => k (Translated.float64FromParts s e si sf)))
        (floatValue ft fmt64 min max fuel) (fun b a => b = a) := by
  unfold floatValue
  -- `( … :)`: the term is elaborated before its type meets the goal, when `hp` has fixed `pT` and the two sides agree by beta
  -- and projections.  With the goal as expected type the unifier meets `?pT (fun b => qT b k)` first, which is not a
  -- pattern: an order of magnitude dearer to check.
  refine (Sim.bind (sim_genFloatRange64 fe ft H HB min max fuel hok)
    (qT := fun x (k : UInt64 → Prog) => k (Translated.float64FromParts x.1 x.2.1 x.2.2.1 x.2.2.2))
    (qM := fun x (k : UInt64 → Prog) => k (fmt64.fromParts x.1 x.2.1 x.2.2.1 x.2.2.2)) ?_ :)
  rintro ⟨s, e, si, sf⟩ ⟨_, _, _, _⟩ ⟨rfl, rfl, ⟨⟩⟩
  exact Sim.ret (tr_float64FromParts s e si sf)

end Rapid
