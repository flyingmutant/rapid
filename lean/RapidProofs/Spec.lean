/-
  RapidProofs.Spec — the contract of a generator fragment in continuation-passing style, stated so that it does not
  depend on the continuation (`Spec strict p P`).  Both the range contract `Yields p P` (RapidProofs/Fragment.lean) and
  the lock-step simulation `Sim p p (· = · ∧ P ·)`, hence `Uniform p` (RapidProofs/Sim.lean), follow from it; the rules
  below build it along the structure of a generator.

  `strict` records that at least one word was recorded (a group that is kept must not be empty): a group around a draw
  gives it, `bind` keeps it, only fragments that may return at once (`Spec.ret`) lack it.
-/
import RapidProofs.Sim

namespace Rapid

/-- whatever the continuation, `p` hands the same `a` with `P a` on to it after recording the same words
    (at least one if `strict`), or ends in the same way with invalid data / out of fuel -/
def Spec {α : Type} (strict : Bool) (p : (α → Prog) → Prog) (P : α → Prop) : Prop :=
  ∀ (src : Src) (ts : TS),
    (∃ a, P a ∧ ∃ src' u kp tk ov, (strict = true → u ≠ []) ∧
        ∀ k, (p k).run src ts = ((k a).run src' ts).after u kp tk [] ov) ∨
    (∃ o e, o.res = .error e ∧ (e.isInvalid = true ∨ e = .fuel) ∧ o.evs = [] ∧ ∀ k, (p k).run src ts = o)

variable {α β : Type} {s : Bool} {p : (α → Prog) → Prog} {P Q : α → Prop}

theorem Spec.yields (h : Spec true p P) : Yields p P := by
  intro k src ts
  rcases h src ts with ⟨a, ha, src', u, kp, tk, ov, hne, hr⟩ | ⟨o, e, he, hk, hev, hr⟩
  · exact Or.inl ⟨a, ha, src', u, kp, tk, ov, hne rfl, hr k⟩
  · exact Or.inr ⟨e, by rw [hr k]; exact ⟨he, hk, hev⟩⟩

theorem Spec.sim (h : Spec s p P) : Sim p p (fun b a => b = a ∧ P a) := by
  intro src ts
  rcases h src ts with ⟨a, ha, src', u, kp, tk, ov, _, hr⟩ | ⟨o, e, he, _, _, hr⟩
  · exact Or.inl ⟨a, a, ⟨rfl, ha⟩, src', u, kp, tk, ov, hr, hr⟩
  · exact Or.inr ⟨o, ⟨e, he⟩, hr, hr⟩

theorem Spec.uniform (h : Spec s p P) : Uniform p := h.sim.mono fun _ _ h => h.1

theorem Spec.res (h : Spec s p P) {k : α → Prog} {src : Src} {ts : TS} {v : Val} (hv : ((p k).run src ts).res = .ok v) :
    ∃ a, P a ∧ ∃ src', ((k a).run src' ts).res = .ok v := by
  rcases h src ts with ⟨a, ha, src', u, kp, tk, ov, _, hr⟩ | ⟨o, e, he, _, _, hr⟩
  · rw [hr, after_res] at hv; exact ⟨a, ha, src', hv⟩
  · rw [hr, he] at hv; cases hv

theorem Spec.mono (h : Spec s p P) (hpq : ∀ a, P a → Q a) : Spec s p Q := by
  intro src ts
  rcases h src ts with ⟨a, ha, rest⟩ | h
  · exact Or.inl ⟨a, hpq a ha, rest⟩
  · exact Or.inr h

theorem Spec.weaken (h : Spec s p P) : Spec false p P := by
  intro src ts
  rcases h src ts with ⟨a, ha, src', u, kp, tk, ov, _, hr⟩ | h
  · exact Or.inl ⟨a, ha, src', u, kp, tk, ov, fun h => Bool.noConfusion h, hr⟩
  · exact Or.inr h

theorem Spec.ret {a : α} (h : P a) : Spec false (fun k => k a) P := fun src _ =>
  Or.inl ⟨a, h, src, [], [], [], false, fun h => Bool.noConfusion h, fun _ => (after_nil _).symm⟩

theorem Spec.fuel : Spec s (fun (_ : α → Prog) => Prog.throw .fuel) P := fun _ _ =>
  Or.inr ⟨_, .fuel, rfl, Or.inr rfl, rfl, fun _ => rfl⟩

theorem Spec.ite {p1 p2 : (α → Prog) → Prog} (c : Prop) [Decidable c] (h1 : c → Spec s p1 P) (h2 : ¬ c → Spec s p2 P) :
    Spec s (fun k => if c then p1 k else p2 k) P := by
  by_cases hc : c
  · simp only [hc, if_true]; exact h1 hc
  · simp only [hc, if_false]; exact h2 hc

/-- sequencing; whether something was recorded is known from the first part alone -/
theorem Spec.bind {s' : Bool} {q : α → (β → Prog) → Prog} {Q : β → Prop}
    (hp : Spec s p P) (hq : ∀ a, P a → Spec s' (q a) Q) : Spec s (fun k => p (fun a => q a k)) Q := by
  intro src ts
  rcases hp src ts with ⟨a, ha, src1, u1, k1, t1, ov1, hne, h1⟩ | ⟨o, e, he, hk, hev, hr⟩
  · rcases hq a ha src1 ts with ⟨b, hb, src2, u2, k2, t2, ov2, _, h2⟩ | ⟨o, e, he, hk, hev, h2⟩
    · refine Or.inl ⟨b, hb, src2, u1 ++ u2, k1 ++ k2, t1 ++ t2, ov1 || ov2, fun hs => by simp [hne hs], fun k => ?_⟩
      rw [h1, h2, after_after0]
    · exact Or.inr ⟨o.after u1 k1 t1 [] ov1, e, he, hk, hev, fun k => by rw [h1, h2]⟩
  · exact Or.inr ⟨o, e, he, hk, hev, fun k => hr _⟩

theorem Spec.map (h : Spec s p P) (f : α → β) : Spec s (fun k => p (fun a => k (f a))) (fun b => ∃ a, P a ∧ b = f a) :=
  h.bind (q := fun a k => k (f a)) fun a ha => Spec.ret ⟨a, ha, rfl⟩

theorem Spec.draw (n : Nat) : Spec true (fun k => Prog.draw n k) (fun u => mask n u = u) := by
  intro src ts
  cases hn : src.next n with
  | none =>
    exact Or.inr ⟨{ Out.ofRes (.error (.invalid "overrun")) src ts with overran := true }, _, rfl, Or.inl rfl, rfl,
      fun k => by simp only [Prog.run, hn]⟩
  | some r =>
    exact Or.inl ⟨r.1, next_masked hn, r.2, [r.1], [r.1], [.w r.1], false, fun _ => List.cons_ne_nil _ _,
      fun k => by simp only [Prog.run, hn]⟩

/-- a group around a fragment whose result is handed on as a `Val`; the fragment has recorded something, so the group is
    finished whatever its discard flag `d` says -/
theorem Spec.group (h : Spec true p P) (l : String) (g : Bool) (enc : α → Val) {d : Val → Bool} :
    Spec true (fun k => Prog.group l g (p fun a => .ret (enc a)) d (fun v => k v)) (fun v => ∃ a, P a ∧ v = enc a) := by
  intro src ts
  rcases h src ts with ⟨a, ha, src1, u1, k1, t1, ov1, hne, h1⟩ | ⟨o, e, he, hk, hev, h1⟩
  · exact Or.inl ⟨enc a, ⟨a, ha, rfl⟩, src1, u1, _, _, ov1, hne, fun k => (group_run_ret (h1 _)).trans (if_pos (Or.inr (hne rfl)))⟩
  · exact Or.inr ⟨{ o with toks := .opn l g :: o.toks ++ [.abort] }, e, he, hk, hev,
      fun k => by rw [group_run_error (e := e) (by rw [h1]; exact he), h1]⟩

theorem Spec.drawGroup {l : String} {g : Bool} {n : Nat} {f : UInt64 → Val} {d : Val → Bool} {q : Val → (α → Prog) → Prog}
    (hq : ∀ u, mask n u = u → Spec false (q (f u)) P) :
    Spec true (fun k => .group l g (.draw n fun u => .ret (f u)) d (fun v => q v k)) P :=
  ((Spec.draw n).group l g f).bind (q := q) fun _ ⟨u, hu, hv⟩ => hv ▸ hq u hu

theorem Spec.sim_of_runEq {pT : (α → Prog) → Prog} (hT : ∀ k src ts, (pT k).run src ts = (p k).run src ts) (h : Spec s p P) :
    Sim pT p (fun b a => b = a ∧ P a) :=
  Sim.congr_left hT h.sim

end Rapid
