/-
  RapidModel.Minimize — `minimize` / `minimizer` of shrink.go: try 0..4, shift right, unset
  bits, sort bits, binary search; `cond` is called on candidates and the second component of
  the state records every probe (for the correspondence check).
-/
import RapidModel.Bits

namespace Rapid

def small : UInt64 := 5

/-- state of the minimizer: best value so far and the probes made (most recent first) -/
structure MinSt where
  best : UInt64
  probes : List UInt64
deriving Repr

/-- `minimizer.accept` -/
def MinSt.accept (cond : UInt64 → Bool) (m : MinSt) (u : UInt64) : MinSt × Bool :=
  if u ≥ m.best ∨ u < small then (m, false)
  else if cond u then (⟨u, u :: m.probes⟩, true)
  else (⟨m.best, u :: m.probes⟩, false)

/-- try 0 … min(u, small) - 1 in order -/
def trySmall (cond : UInt64 → Bool) (u : UInt64) : Nat → UInt64 → List UInt64 → Option UInt64 × List UInt64
  | 0, _, probes => (none, probes)
  | n+1, i, probes =>
    if i < u ∧ i < small then
      if cond i then (some i, i :: probes) else trySmall cond u n (i + 1) (i :: probes)
    else (none, probes)

def rShift (cond : UInt64 → Bool) : Nat → MinSt → MinSt
  | 0, m => m
  | n+1, m =>
    let (m', ok) := m.accept cond (m.best >>> 1)
    if ok then rShift cond n m' else m'

/-- `for i := size-1; i >= 0; i-- { accept(best ^ 1<<i) }` (`size` is computed once) -/
def unsetBits (cond : UInt64 → Bool) : Nat → MinSt → MinSt
  | 0, m => m
  | i+1, m => unsetBits cond i (m.accept cond (m.best ^^^ ((1 : UInt64) <<< i.toUInt64))).1

def sortInner (cond : UInt64 → Bool) (i : Nat) (h : UInt64) : Nat → Nat → MinSt → MinSt
  | 0, _, m => m
  | n+1, j, m =>
    if j < i then
      let l : UInt64 := (1 : UInt64) <<< j.toUInt64
      if m.best &&& l == 0 then
        let (m', ok) := m.accept cond (m.best ^^^ (l ||| h))
        if ok then m' else sortInner cond i h n (j + 1) m'
      else sortInner cond i h n (j + 1) m
    else m

def sortBits (cond : UInt64 → Bool) : Nat → MinSt → MinSt
  | 0, m => m
  | i+1, m =>
    let h : UInt64 := (1 : UInt64) <<< i.toUInt64
    let m' := if m.best &&& h != 0 then sortInner cond i h i 0 m else m
    sortBits cond i m'

def binLoop (cond : UInt64 → Bool) : Nat → UInt64 → UInt64 → MinSt → MinSt
  | 0, _, _, m => m
  | n+1, i, j, m =>
    if i < j then
      let h := i + (j - i) / 2
      let (m', ok) := m.accept cond h
      if ok then binLoop cond n i h m' else binLoop cond n (h + 1) j m'
    else m

def binSearch (cond : UInt64 → Bool) (m : MinSt) : MinSt :=
  let (m', ok) := m.accept cond (m.best - 1)
  if !ok then m' else binLoop cond 65 0 m'.best m'

/-- `minimize(u, cond)`: result and probes in order -/
def minimize (u : UInt64) (cond : UInt64 → Bool) : UInt64 × List UInt64 :=
  if u == 0 then (0, [])
  else
    match trySmall cond u 5 0 [] with
    | (some i, probes) => (i, probes.reverse)
    | (none, probes) =>
      if u ≤ small then (u, probes.reverse)
      else
        let m : MinSt := ⟨u, probes⟩
        let m := rShift cond 64 m
        let m := unsetBits cond (len64 m.best) m
        let m := sortBits cond (len64 m.best) m
        let m := binSearch cond m
        (m.best, m.probes.reverse)

end Rapid
