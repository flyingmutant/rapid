/-
  RapidProofs.ReachComp — reachability, compositionally: `ReachesVal p a` (RapidProofs/Fragment.lean) says that some words
  make the primitive `p` hand on exactly `a` (whatever follows in the buffer, whatever the continuation and
  the `*T`).  Rules for sequencing, groups and the primitives of utils.go.
-/
import RapidProofs.Reach

namespace Rapid

theorem ReachesVal.bind {α β : Type} {p : (α → Prog) → Prog} {a : α} {q : α → (β → Prog) → Prog} {b : β}
    (hp : ReachesVal p a) (hq : ReachesVal (q a) b) : ReachesVal (fun k => p (fun x => q x k)) b := by
  obtain ⟨ws1, h1⟩ := hp
  obtain ⟨ws2, h2⟩ := hq
  refine ⟨ws1 ++ ws2, fun k rest ts => ?_⟩
  obtain ⟨u1, k1, t1, hne1, e1⟩ := h1 (fun x => q x k) (ws2 ++ rest) ts
  obtain ⟨u2, k2, t2, _, e2⟩ := h2 k rest ts
  refine ⟨u1 ++ u2, k1 ++ k2, t1 ++ t2, by simp [hne1], ?_⟩
  rw [List.append_assoc, e1, e2, after_after0]
  rfl

theorem ReachesVal.map {α β : Type} {p : (α → Prog) → Prog} {a : α} (hp : ReachesVal p a) (f : α → β) :
    ReachesVal (fun k => p (fun x => k (f x))) (f a) := by
  obtain ⟨ws, h⟩ := hp
  exact ⟨ws, fun k rest ts => h (fun x => k (f x)) rest ts⟩

theorem ReachesVal.group {α : Type} {p : (α → Prog) → Prog} {a : α} (hp : ReachesVal p a) (l : String) (s : Bool) (enc : α → Val)
    {d : Val → Bool} :
    ReachesVal (fun k => Prog.group l s (p fun x => .ret (enc x)) d (fun v => k v)) (enc a) := by
  obtain ⟨ws, h⟩ := hp
  refine ⟨ws, fun k rest ts => ?_⟩
  obtain ⟨u1, k1, t1, hne, e1⟩ := h (fun x => .ret (enc x)) rest ts
  exact ⟨u1, _, _, hne, (group_run_ret e1).trans (if_pos (Or.inr hne))⟩

theorem coin_reaches {thr w : UInt64} {b : Bool} (hw : w < thrNever) (hb : decide (thr ≤ w) = b) : ReachesVal (coin thr) b := by
  refine ⟨[w], fun k rest ts => ?_⟩
  simp only [coin, run_draw_group, List.singleton_append, next_buf, mask53_of_lt hw, hb, Bool.false_eq_true, if_false, bool_beq_vTrue]
  refine ⟨_, _, _, ?_, rfl⟩
  simp

section
variable {β : Type} {half : UInt64} {c1 c2 : Prop} [Decidable c1] [Decidable c2] {q : Bool → (β → Prog) → Prog} {b : β}

/-- the sign coin of `genIntRange` and `genFloatRange` can come up non-negative unless the range is non-positive, and
    negative unless it is non-negative -/
theorem ReachesVal.signCoin_pos (hh : 0 < half) (h : c1 ∨ ¬ c2) (hq : ReachesVal (q false) b) :
    ReachesVal (fun k => coin (if c1 then thrNever else if c2 then thrAlways else half) fun n => q n k) b := by
  refine ReachesVal.bind (coin_reaches (w := 0) (by decide) (decide_eq_false (UInt64.not_le.mpr ?_))) hq
  split
  · decide
  · rw [if_neg (h.resolve_left ‹_›)]; exact hh

theorem ReachesVal.signCoin_neg (hh : half < thrNever) (h : ¬ c1) (hq : ReachesVal (q true) b) :
    ReachesVal (fun k => coin (if c1 then thrNever else if c2 then thrAlways else half) fun n => q n k) b := by
  refine ReachesVal.bind (coin_reaches ?_ (decide_eq_true (UInt64.le_refl _))) hq
  rw [if_neg h]
  split
  · decide
  · exact hh

end

theorem uintNoReject_reaches (max r : UInt64) (hr : r ≤ max) : ReachesVal (uintNoReject max) r := by
  refine ⟨[r], fun k rest ts => ?_⟩
  have hm := mask_len64_of_le hr
  simp only [uintNoReject, run_draw_group, List.singleton_append, next_buf, hm, vu_uv, Bool.false_eq_true, if_false]
  simp only [UInt64.not_lt.mpr hr, if_false]
  refine ⟨_, _, _, ?_, rfl⟩
  simp

theorem uintUnbiased_reaches (ft : FT) (max u : UInt64) (hu : u ≤ max) (fuel : Nat) :
    ReachesVal (fun (k : UInt64 × Bool × Bool → Prog) => uintN ft max false (fuel + 1) (fun x l r => k (x, l, r))) (u, false, false) := by
  refine ⟨[u], fun k rest ts => ?_⟩
  have hm := mask_len64_of_le hu
  simp only [uintN, Bool.false_eq_true, if_false, uintUnbiased_step, List.singleton_append, next_buf, hm, hu, if_true]
  refine ⟨_, _, _, ?_, rfl⟩
  simp

theorem ReachesVal.uintRange {ft : FT} {min max v : UInt64} {bias l r : Bool} {fuel : Nat} (h1 : min ≤ v) (h2 : v ≤ max)
    (h : ReachesVal (fun (k : UInt64 × Bool × Bool → Prog) => uintN ft (max - min) bias fuel (fun x l r => k (x, l, r))) (v - min, l, r)) :
    ReachesVal (fun (k : UInt64 × Bool × Bool → Prog) => uintRange ft min max bias fuel (fun x l r => k (x, l, r))) (v, l, r) := by
  have h := h.map fun (x : UInt64 × Bool × Bool) => (min + x.1, x.2.1, x.2.2)
  simp only [u64_add_sub] at h
  obtain ⟨ws, hw⟩ := h
  refine ⟨ws, fun k rest ts => ?_⟩
  simp only [Rapid.uintRange, UInt64.not_lt.mpr (UInt64.le_trans h1 h2), if_false]
  exact hw k rest ts

theorem uintRangeUnbiased_reaches (ft : FT) (min max v : UInt64) (h1 : min ≤ v) (h2 : v ≤ max) (fuel : Nat) :
    ReachesVal (fun (k : UInt64 × Bool × Bool → Prog) => uintRange ft min max false (fuel + 1) (fun x l r => k (x, l, r)))
      (v, false, false) :=
  ReachesVal.uintRange h1 h2 (uintUnbiased_reaches ft (max - min) (v - min) (u64_sub_le_sub h1 h2) fuel)

/-- biased `genUintN(max)`: with a bias word whose geometric draw `n` exceeds the bit length of
    `max` (and is below the overflow threshold) every `u ≤ max` is handed on with both flags false -/
theorem uintBiased_reaches_noflags (ft : FT) (max u w : UInt64) (n : Nat) (hu : u ≤ max) (hw : w < thrNever)
    (hg : geomN (ft.geom (len64 max)) w = n) (hn1 : len64 max + 2 ≤ n) (hn2 : n < overflowAt (len64 max)) (fuel : Nat) :
    ReachesVal (fun (k : UInt64 × Bool × Bool → Prog) => uintN ft max true (fuel + 1) (fun x l r => k (x, l, r))) (u, false, false) := by
  refine ⟨[w, u], fun k rest ts => ?_⟩
  obtain ⟨toks, h⟩ := uintBiased_run ft max u w n hu hw hg (by rw [biasedBitlen, if_neg (by omega), if_neg (by omega)])
    fuel (fun x l r => k (x, l, r)) rest ts
  -- `n` is neither 1 nor at most the bit length drawn: both flags are false
  rw [beq_eq_false_iff_ne.mpr (show n ≠ 1 by omega), decide_eq_false (show ¬ len64 max ≥ n by omega),
    Bool.and_false, Bool.and_false] at h
  exact ⟨_, _, toks, by simp, h⟩

end Rapid
