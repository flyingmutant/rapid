/-
  RapidProofs.Lockset — lockset soundness: any number of threads running well-locked traces
  over one RWMutex never reach a configuration with a data race, under every interleaving
  the mutex allows.
-/
import RapidModel.Conc

namespace Rapid.Conc

theorem WLF_acq (h : Option Mode) (m es) : WLF h (.acq m :: es) = (h.isNone && WLF (some m) es) := by cases h <;> rfl
theorem WLF_rel (h : Option Mode) (m es) : WLF h (.rel m :: es) = (h == some m && WLF none es) := by
  rcases h with _ | m'
  · rfl
  · cases m' <;> cases m <;> rfl
theorem WLF_read (h : Option Mode) (f es) : WLF h (.read f :: es) = (h.isSome && WLF h es) := by cases h <;> rfl
theorem WLF_write (h : Option Mode) (f es) : WLF h (.write f :: es) = (h == some .W && WLF h es) := by
  rcases h with _ | _ | _ <;> rfl

def Inv (c : Cfg) : Prop :=
  (∀ i, WLF (c.held i) (c.rest i) = true) ∧ (∀ i j, i ≠ j → c.held i = some .W → c.held j = none)

/-- thread `i` makes a step: `hi` its remaining trace is well-locked under what it holds afterwards, `ho` nobody else's
    holding changes, `hx` the mutex — a write lock at `i` and any lock elsewhere exclude each other -/
theorem inv_upd {c : Cfg} (h : Inv c) {i : Nat} {es : List Ev} {held' : Nat → Option Mode}
    (hi : WLF (held' i) es = true) (ho : ∀ k, k ≠ i → held' k = c.held k)
    (hx : ∀ k, k ≠ i → (held' i = some .W → c.held k = none) ∧ (c.held k = some .W → held' i = none)) :
    Inv ⟨upd c.rest i es, held'⟩ := by
  refine ⟨fun k => ?_, fun k j hkj hk => ?_⟩
  · by_cases hk : k = i
    · subst hk; simpa [upd] using hi
    · simpa [upd, hk, ho k hk] using h.1 k
  · show held' j = none
    have hk : held' k = some .W := hk
    by_cases hki : k = i <;> by_cases hji : j = i
    · exact absurd (hki.trans hji.symm) hkj
    · rw [ho j hji]; exact (hx j hji).1 (hki ▸ hk)
    · rw [hji]; exact (hx k hki).2 (ho k hki ▸ hk)
    · rw [ho j hji]; exact h.2 k j hkj (ho k hki ▸ hk)

theorem inv_step {c c' : Cfg} (h : Inv c) (s : Step c c') : Inv c' := by
  -- in each case the equation of `WLF` for the event gives the first hypothesis of `inv_upd`, the mutex the last
  cases s with
  | acqW i es hr hn =>
    have hi : WLF (some .W) es = true := by have := h.1 i; rwa [hr, hn i] at this
    exact inv_upd h (by simpa [upd] using hi) (fun k hk => by simp [upd, hk]) fun k _ =>
      ⟨fun _ => hn k, fun hk => by simp [hn k] at hk⟩
  | acqR i es hr hn hi =>
    have hi : WLF (some .R) es = true := by have := h.1 i; rwa [hr, hi] at this
    exact inv_upd h (by simpa [upd] using hi) (fun k hk => by simp [upd, hk]) fun k _ =>
      ⟨by simp [upd], fun hk => absurd hk (hn k)⟩
  | rel i m es hr hi =>
    have hi : WLF none es = true := by have := h.1 i; rw [hr, WLF_rel] at this; exact (Bool.and_eq_true_iff.mp this).2
    exact inv_upd h (by simpa [upd] using hi) (fun k hk => by simp [upd, hk]) fun k _ => ⟨by simp [upd], fun _ => by simp [upd]⟩
  | read i f es hr | write i f es hr =>
    have hi : WLF (c.held i) es = true := by
      have := h.1 i; simp only [hr, WLF_read, WLF_write, Bool.and_eq_true] at this; exact this.2
    exact inv_upd h hi (fun _ _ => rfl) fun k hk => ⟨h.2 i k (Ne.symm hk), h.2 k i hk⟩

theorem held_of_access {h : Option Mode} {es : List Ev} {f : Nat} {w : Bool}
    (hwl : WLF h es = true) (ha : isAccess f w es) : h ≠ none ∧ (w = true → h = some .W) := by
  rcases es with _ | ⟨_ | _ | _ | _, es⟩
  case cons.read => rw [WLF_read] at hwl; exact ⟨(by rintro rfl; cases hwl), (by rintro rfl; cases ha.2)⟩
  case cons.write => rw [WLF_write] at hwl; cases eq_of_beq (Bool.and_eq_true_iff.mp hwl).1; exact ⟨nofun, fun _ => rfl⟩
  all_goals exact ha.elim

theorem no_race {c : Cfg} (h : Inv c) : ¬ Race c := by
  rintro ⟨i, j, f, wi, wj, hij, hai, haj, hw⟩
  obtain ⟨hwl, hx⟩ := h
  have hi := held_of_access (hwl i) hai
  have hj := held_of_access (hwl j) haj
  rcases hw with hw | hw
  · exact hj.1 (hx i j hij (hi.2 hw))
  · exact hi.1 (hx j i (fun e => hij e.symm) (hj.2 hw))

theorem lockset_sound (c₀ : Cfg) (h0 : ∀ i, c₀.held i = none) (hwl : ∀ i, WLF none (c₀.rest i) = true)
    {c : Cfg} (hr : Reach c₀ c) : ¬ Race c := by
  have : Inv c := by
    induction hr with
    | refl => exact ⟨fun i => by rw [h0 i]; exact hwl i, fun i j _ hi => by rw [h0 i] at hi; cases hi⟩
    | step _ s ih => exact inv_step ih s
  exact no_race this

/-- a thread may call well-locked methods one after another -/
theorem wlf_append (a b : List Ev) (h : Option Mode) (ha : WLF h a = true) (hb : WLF none b = true) : WLF h (a ++ b) = true := by
  induction a generalizing h with
  | nil => cases h with
    | none => exact hb
    | some m => cases ha
  | cons e a ih =>
    cases e <;> simp only [List.cons_append, WLF_acq, WLF_rel, WLF_read, WLF_write, Bool.and_eq_true] at ha ⊢ <;>
      exact ⟨ha.1, ih _ ha.2⟩

theorem wlf_flatten : ∀ (calls : List (List Ev)), (∀ t ∈ calls, WLF none t = true) → WLF none calls.flatten = true
  | [], _ => rfl
  | t :: ts, h => wlf_append t ts.flatten none (h t List.mem_cons_self) (wlf_flatten ts fun x hx => h x (List.mem_cons_of_mem _ hx))

/-- threads that call, any number of times and in any order, methods whose traces are in a table of well-locked traces
    never race -/
theorem calls_race_free {tbl : List (String × List Ev)} (htbl : ∀ t ∈ tbl, WLF none t.2 = true) (calls : Nat → List (List Ev))
    (hc : ∀ i, ∀ t ∈ calls i, ∃ m, (m, t) ∈ tbl) {c : Cfg}
    (hr : Reach ⟨fun i => (calls i).flatten, fun _ => none⟩ c) : ¬ Race c :=
  lockset_sound _ (fun _ => rfl) (fun i => wlf_flatten _ fun t ht => (hc i t ht).elim fun m hm => htbl (m, t) hm) hr

end Rapid.Conc
