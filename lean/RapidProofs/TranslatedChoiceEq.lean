/-
  RapidProofs.TranslatedChoiceEq — `sampledGen.value` (SampledFrom, Just) and `oneOfGen.value` (OneOf) of combinators.go as
  translated from /repo on every run: an index from `genIndex(len, true)` — the model's `index` — then the element at
  it / a draw from the generator at it.  A slice held in a field of the generator is a `List`; `x[i]` out of range is
  Go's runtime panic (`Go.idxP`), never reached because `index` yields `i < len`.
-/
import RapidProofs.Contracts
import RapidProofs.TranslatedProgEq
namespace Rapid
open Rapid.Go

theorem idxP_u64 {α : Type} (l : List α) (hl : l.length < 2 ^ 62) (u : UInt64) (k : α → Prog) :
    Go.idxP l u.toInt64 k = match l[u.toNat]? with
      | some a => k a
      | none => .throw (.panic "index out of range" Go.siteRuntime) := by
  unfold Go.idxP
  by_cases h : u.toNat < 2 ^ 63
  · rw [u64_toInt64_eq_ofNat, idx_ofNat _ h]; cases l[u.toNat]? <;> rfl
  · rw [Go.idx, Go.pos?, if_neg (fun h' => by have := u64_toInt64_toInt_big u h; omega), List.getElem?_eq_none (by omega)]

/-- **`SampledFrom` of /repo**: an index from `genIndex(len, true)` — the model's `index` — and the element at it -/
theorem tr_sampled {E : Type} [Go.Enc E] [Inhabited E] (fe : FEval) (ft : FT) (H : FloatFacts fe ft) (slice : List E)
    (hl : slice.length < 2 ^ 62) (fuel : Nat) (k : E → Prog) :
    RunEq (Translated.sampledGen_value fe slice fuel k)
      (index ft slice.length true fuel fun i => match slice[i]? with
        | some a => k a
        | none => .throw (.panic "index out of range" Go.siteRuntime)) :=
  tr_genIndex fe ft H slice.length hl true fuel _ _ fun u => by rw [idxP_u64 slice hl u]; exact RunEq.refl _

/-- **`OneOf` of /repo**: an index from `genIndex(len, true)`, then a draw from the generator at it -/
theorem tr_oneOf {V : Type} [Go.Enc V] [Inhabited V] (fe : FEval) (ft : FT) (H : FloatFacts fe ft) (gens : List ((V → Prog) → Prog))
    (hl : gens.length < 2 ^ 62) (fuel : Nat) (k : V → Prog) :
    RunEq (Translated.oneOfGen_value fe gens fuel k)
      (index ft gens.length true fuel fun i => match gens[i]? with
        | some g => g k
        | none => .throw (.panic "index out of range" Go.siteRuntime)) :=
  tr_genIndex fe ft H gens.length hl true fuel _ _ fun u => by
    rw [idxP_u64 gens hl u]; cases gens[u.toNat]? <;> exact RunEq.refl _

theorem index_congr (ft : FT) (n : Nat) (bias : Bool) (fuel : Nat) (hn : 0 < n) (hsmall : n ≤ 2 ^ 64) (k1 k2 : Nat → Prog)
    (hk : ∀ i, i < n → RunEq (k1 i) (k2 i)) : RunEq (index ft n bias fuel k1) (index ft n bias fuel k2) := by
  intro src ts
  exact (spec_index ft n bias fuel hn hsmall).sim.runEq k1 k2 (fun b a hR => by obtain ⟨rfl, hlt⟩ := hR; exact hk _ hlt) src ts

end Rapid
