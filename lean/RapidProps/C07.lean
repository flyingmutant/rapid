/-
  C07 — the printed seed reproduces the failure; a fixed seed fixes the whole run.
  (`findBug`, `doCheck` are functions of `(p, checks, seed, early, files, cands)`: the second half
  is definitional in the model and tied to the code by the correspondence check.)
-/
import RapidModel.Generated.CallOrders
import RapidModel.Generated.Consts
import RapidProofs.Shrink
import RapidProofs.TranslatedCheckEq
import RapidProofs.TranslatedEngineEq

namespace Rapid.C07

/-- test case `i` of a run with base seed `s₀` is driven by `s₀ + (0+1+…+i)` (mod 2⁶⁴) -/
theorem seed_schedule (p : Prog) (checks : Nat) (seed : UInt64) (early : Nat → Bool) :
    ∀ i (h : i < (findBug p checks seed early).seeds.length),
      (findBug p checks seed early).seeds[i] = seed + UInt64.ofNat (tri (i + 1)) :=
  (findBug_seeds p checks seed early).1

/-- the seed that is reported is the seed of the (last =) failing test case -/
theorem reported_seed_is_failing_case (p : Prog) (checks : Nat) (seed : UInt64) (early : Nat → Bool)
    (h : (findBug p checks seed early).err.isSome) :
    (findBug p checks seed early).seeds.getLast? = some (findBug p checks seed early).seed :=
  (findBug_seeds p checks seed early).2 h

/-- a run whose base seed drives a failing test case fails at its very first test case -/
theorem first_case_fails (p : Prog) (s : UInt64) (e : Err)
    (hrun : (checkOnce p (.rng (Jsf.init s)) TS.fresh).err = some e) (hinv : e.isInvalid = false)
    (checks' : Nat) (hc : 0 < checks') (early' : Nat → Bool) :
    findBug p checks' s early' = ⟨0, 0, false, s, some e, [s]⟩ := by
  obtain ⟨k, hk⟩ : ∃ k, checks' + checks' * invalidChecksMult = k + 1 :=
    ⟨checks' + checks' * invalidChecksMult - 1, by omega⟩
  simp only [findBug, hk, findBugLoop]
  have h1 : 0 < checks' ∧ 0 < checks' * invalidChecksMult := ⟨hc, by simp [invalidChecksMult]; omega⟩
  have hz : s + UInt64.ofNat (0 + 0) = s := by simp
  simp only [h1, and_self, if_true, Nat.lt_irrefl, false_and, if_false, hz, hrun, hinv,
    Bool.false_eq_true, List.nil_append, gt_iff_lt, Nat.add_zero]

/-- **the printed seed reproduces**: started from the reported seed (any `checks > 0`, any
    clock) the very first test case is the failing one — same source, same error — and
    `findBug` reports it after 0 valid and 0 invalid tests, with the same seed -/
theorem reported_seed_reproduces (p : Prog) (checks : Nat) (seed : UInt64) (early : Nat → Bool) (e : Err)
    (h : (findBug p checks seed early).err = some e) (checks' : Nat) (hc : 0 < checks') (early' : Nat → Bool) :
    findBug p checks' (findBug p checks seed early).seed early' =
      ⟨0, 0, false, (findBug p checks seed early).seed, some e, [(findBug p checks seed early).seed]⟩ := by
  obtain ⟨hinv, hrun⟩ := findBug_blame p checks seed early e h
  exact first_case_fails p _ e hrun hinv checks' hc early'

example : tri 1 = 0 ∧ tri 2 = 1 ∧ tri 4 = 6 := by decide

/-- the seed step of `findBug` as written in the source -/
theorem seed_step_source : Rapid.Generated.src_seedStep = "seed += uint64(iter)" := rfl

/-- the jsf64 constants of the source are those of the model -/
theorem jsf_constants_source :
    Rapid.Generated.jsf_initA = jsfInitA.toNat ∧ Rapid.Generated.jsf_rounds = jsfWarmRounds ∧
    Rapid.Generated.jsf_rotations = [7, 13, 37] :=
  ⟨rfl, rfl, rfl⟩

/-- the seed of the next test case, translated from /repo's source on every run, is the model's -/
theorem seed_step_translated (seed : UInt64) (iter : Nat) :
    Translated.findBugSeedStep (Int64.ofNat iter) seed = seed + UInt64.ofNat iter := tr_findBugSeedStep seed iter

/-- **the seed the source's generation loop returns is the seed of the model's `findBug`** — by `reported_seed_is_failing_case`
    the seed its last (the failing) test case ran with, and by `seed_schedule` base seed + 1 + 2 + … + k for test case k -/
theorem source_findBug_seed (p : Prog) (early : Nat → Bool) (checks : Nat) (seed sd0 : UInt64) (fuel : Nat) (hc : checks < 2 ^ 56)
    (hf : checks + checks * invalidChecksMult < fuel) :
    ∃ v i e err s', Rapid.EM.exec (modelEOracle p early) (Rapid.Translated.findBug (Int64.ofNat checks) seed fuel) (TS.fresh, sd0) =
      (.ok (v, i, e, (findBug p checks seed early).seed, err), s') := by
  obtain ⟨s', h⟩ := tr_findBug p early checks seed sd0 fuel hc hf
  exact ⟨_, _, _, _, s', h⟩

/-- **the seed the source's `doCheck` hands back (the one `checkTB` prints) is the seed of the failing test case of the
    generation loop** — whenever no fail file reproduced and the loop found a failure; and it is the seed the source has just
    re-run on a fresh `*T` (`source_doCheck`: the `once (.rng seed)` request) -/
theorem source_doCheck_seed (E : Go.CEnv) (checks : Nat) (hc : checks < 2 ^ 62) (seed : UInt64) (failfile : String) (globf : Bool)
    (fuel : Nat) (hl : (Go.failFileNames failfile globf E.found).length < 2 ^ 62)
    (hfuel : (Go.failFileNames failfile globf E.found).length < fuel)
    (hfiles : firstFailFile E.p ((Go.failFileNames failfile globf E.found).map E.file) 0 = none)
    (hbug : (findBug E.p checks seed E.early).err.isSome) :
    ∃ r, (Go.CM.run E (Translated.doCheck (Int64.ofNat checks) seed failfile globf fuel) none).1 = .ok r ∧
      r.2.2.2.1 = (findBug E.p checks seed E.early).seed := by
  rw [Go.tr_doCheck E checks hc seed failfile globf fuel hl hfuel]
  obtain ⟨x, hfe⟩ := Option.isSome_iff_exists.mp hbug
  rw [doCheck_of_bug hfiles rfl hfe]
  exact ⟨_, rfl, rfl⟩

/-- `checkTB` re-read from /repo statement by statement: the seed offered in a failure message is the one `doCheck` hands back — the seed of the failing test case of the generation loop (`source_doCheck_seed`), and none (0) when the failure came from a fail file (S193 offered the seed recorded in the file) -/
theorem checkTB_body_source : Rapid.Generated.body_checkTB =
    ["{", "tb.Helper()", "checks := flags.checks", "if testing.Short() {", "checks /= 5", "}", "start := time.Now()",
     "valid, invalid, earlyExit, seed, failfile, buf, err1, err2 := doCheck(tb, deadline, checks, baseSeed(), flags.failfile, true, prop)",
     "dt := time.Since(start)", "if err1 == nil && err2 == nil {",
     "if valid == checks || (earlyExit && valid > 0) {", "tb.Logf(\"[rapid] OK, passed %v tests (%v)\", valid, dt)",
     "} else {", "tb.Errorf(\"[rapid] only generated %v valid tests from %v total (%v)\", valid, valid+invalid, dt)",
     "}", "} else {", "if failfile == \"\" && !flags.nofailfile {", "_, failfile = failFileName(tb.Name())",
     "out := captureTestOutput(tb, prop, buf)", "err := saveFailFile(failfile, rapidVersion, out, seed, buf)",
     "if err != nil {", "tb.Logf(\"[rapid] %v\", err)", "failfile = \"\"", "}", "}", "var repr string", "switch {",
     "case failfile != \"\" && seed != 0:",
     "repr = fmt.Sprintf(\"-rapid.failfile=%q (or -rapid.seed=%d)\", failfile, seed)", "case failfile != \"\":",
     "repr = fmt.Sprintf(\"-rapid.failfile=%q\", failfile)", "case seed != 0:",
     "repr = fmt.Sprintf(\"-rapid.seed=%d\", seed)", "}", "name := regexp.QuoteMeta(tb.Name())",
     "if traceback(err1) == traceback(err2) {", "if err2.isStopTest() {",
     "tb.Errorf(\"[rapid] failed after %v tests: %v\\nTo reproduce, specify -run=%q %v\\nFailed test output:\", valid, err2, name, repr)",
     "} else {",
     "tb.Errorf(\"[rapid] panic after %v tests: %v\\nTo reproduce, specify -run=%q %v\\nTraceback:\\n%vFailed test output:\", valid, err2, name, repr, traceback(err2))",
     "}", "} else {",
     "tb.Errorf(\"[rapid] flaky test, can not reproduce a failure\\nTo try to reproduce, specify -run=%q %v\\nTraceback (%v):\\n%vOriginal traceback (%v):\\n%vFailed test output:\", name, repr, err2, traceback(err2), err1, traceback(err1))",
     "}", "_ = checkOnce(newT(tb, newBufBitStream(buf, false), true, nil), prop)", "}", "if tb.Failed() {",
     "tb.FailNow()", "}", "}"] := by rfl

end Rapid.C07
