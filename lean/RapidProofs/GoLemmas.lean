/-
  RapidProofs.GoLemmas — what the proofs about translated Go code share: Go's `int` values that are natural numbers
  (`Int64.ofNat n`, `n < 2^63`: counters, indices, lengths) or integers (`I x`, `InI x`: a group's `end`, which may be -1),
  `Go.idx`/`Go.slice*`/`Go.setIdx` at such indices (the model's `slice?`, `setIdx?` among them), `Go.M` with the model's `Option`
  embedded in it (`Go.ofOpt`), and the induction behind the loops that the translator gave fuel (`fuel_loop`, `range_loop`,
  `fuel_ind`).
-/
import RapidModel.GoImp
import RapidModel.GoProg
import RapidModel.Rec
import RapidProofs.U64

namespace Rapid

open Rapid.Go

/-! `int` values that are natural numbers: the integer such a value holds is core's `Int64.toInt_ofNat_of_lt`, their order its
  `Int64.ofNat_lt_iff_lt`, `Int64.ofNat_le_iff_le` (both sides below `2^63`), sums, differences and products its `Int64.ofNat_add`,
  `_sub`, `_mul`.  On a small goal `simp (disch := omega) only [Int64.ofNat_lt_iff_lt, …]` rewrites them under `decide`; on the
  unfolded body of a loop that is slow (every bound is an `omega` call on 19-digit numbers): there take the guard as a `have` from
  `i64_ofNat_lt`, or from `range_loop`, which hands it over. -/

theorem i64_zero_ofNat : (0 : Int64) = Int64.ofNat 0 := rfl

theorem i64_ofNat_succ (n : Nat) : Int64.ofNat n + 1 = Int64.ofNat (n + 1) := (Int64.ofNat_add n 1).symm

theorem i64_ofNat_pred (n : Nat) : Int64.ofNat (n + 1) - 1 = Int64.ofNat n :=
  (Int64.ofNat_sub (n + 1) 1 (Nat.le_add_left 1 n)).symm

theorem i64_ofNat_beq {a b : Nat} (ha : a < 2 ^ 63) (hb : b < 2 ^ 63) : (Int64.ofNat a == Int64.ofNat b) = decide (a = b) :=
  (Bool.beq_eq_decide_eq _ _).trans (decide_eq_decide.mpr (by
    rw [← Int64.toInt_inj, Int64.toInt_ofNat_of_lt ha, Int64.toInt_ofNat_of_lt hb, Int.ofNat_inj]))

theorem i64_ofNat_lt {a b : Nat} (ha : a < 2 ^ 63) (hb : b < 2 ^ 63) : decide (Int64.ofNat a < Int64.ofNat b) = decide (a < b) :=
  decide_eq_decide.mpr (Int64.ofNat_lt_iff_lt ha hb)

theorem i64_ofNat_le {a b : Nat} (ha : a < 2 ^ 63) (hb : b < 2 ^ 63) : decide (Int64.ofNat a ≤ Int64.ofNat b) = decide (a ≤ b) :=
  decide_eq_decide.mpr (Int64.ofNat_le_iff_le ha hb)

/-- `-1`: where a down-counting loop ends, and the group index of a `repeat` that has no group open -/
theorem i64_negOne_not_nonneg : decide (Int64.ofNat 0 - 1 ≥ (0 : Int64)) = false := by decide

theorem i64_negOne_not_pos : decide (Int64.ofNat 0 - 1 > (0 : Int64)) = false := by decide

theorem i64_ofNat_nonneg {n : Nat} (hn : n < 2 ^ 63) : decide (Int64.ofNat n ≥ (0 : Int64)) = true :=
  (i64_ofNat_le (a := 0) (by omega) hn).trans (decide_eq_true (Nat.zero_le n))

theorem i64_ofNat_pos {n : Nat} (hn : n < 2 ^ 63) : decide (Int64.ofNat n > (0 : Int64)) = decide (n > 0) :=
  i64_ofNat_lt (a := 0) (by omega) hn

theorem i64_ofNat_toUInt64_toNat {n : Nat} (h : n < 2 ^ 63) : ((Int64.ofNat n).toUInt64).toNat = n := by
  rw [Int64.toUInt64_ofNat', UInt64.toNat_ofNat_of_lt' (Nat.lt_trans h (by decide))]

theorem natOfInt_ofNat {n : Nat} (h : n < 2 ^ 63) : natOfInt (Int64.ofNat n) = n := by
  simp [natOfInt, Int64.toInt_ofNat_of_lt h]

/-- Go's `int` made from an `Int` of the model — for quantities that are not a `Nat` there, such as a group's `end`
    (-1 while the group is unfinished) and differences; exact on `InI` -/
def I (x : Int) : Int64 := Int64.ofInt x

/-- an `int` of the source holds `x` exactly -/
def InI (x : Int) : Prop := -2 ^ 63 ≤ x ∧ x < 2 ^ 63

theorem InI.nat {n : Nat} (h : n < 2 ^ 63) : InI n := ⟨by omega, by omega⟩

theorem I_nat (n : Nat) : I (n : Int) = Int64.ofNat n := Int64.ofInt_eq_ofNat

theorem I_toInt {x : Int} (h : InI x) : (I x).toInt = x := Int64.toInt_ofInt_of_le h.1 h.2

theorem I_add (a b : Int) : I a + I b = I (a + b) := (Int64.ofInt_add a b).symm
theorem I_sub (a b : Int) : I a - I b = I (a - b) := (Int64.ofInt_sub a b).symm

theorem I_le_iff {a b : Int} (ha : InI a) (hb : InI b) : I a ≤ I b ↔ a ≤ b := by
  rw [Int64.le_iff_toInt_le, I_toInt ha, I_toInt hb]

/- `>` and `≥` of the source unfold to these.  Applied to a literal, say `(0 : Int64)`, give the integer (`(b := 0)`): unifying
   the literal with `I ?b` does not come back. -/
theorem I_lt {a b : Int} (ha : InI a) (hb : InI b) : decide (I a < I b) = decide (a < b) :=
  decide_eq_decide.mpr (by rw [Int64.lt_iff_toInt_lt, I_toInt ha, I_toInt hb])

theorem I_le {a b : Int} (ha : InI a) (hb : InI b) : decide (I a ≤ I b) = decide (a ≤ b) := decide_eq_decide.mpr (I_le_iff ha hb)

theorem I_bne {a b : Int} (ha : InI a) (hb : InI b) : (I a != I b) = (a != b) := by
  have : I a = I b ↔ a = b := by rw [← Int64.toInt_inj, I_toInt ha, I_toInt hb]
  rw [bne, bne, Bool.beq_eq_decide_eq, Bool.beq_eq_decide_eq, decide_eq_decide.mpr this]

theorem go_shr64_lt (a n : UInt64) (h : n.toNat < 64) : Go.shr64 a n = a >>> n :=
  if_neg (UInt64.not_le.mpr (UInt64.lt_iff_toNat_lt.mpr h))

theorem go_shl64_lt (a n : UInt64) (h : n.toNat < 64) : Go.shl64 a n = a <<< n :=
  if_neg (UInt64.not_le.mpr (UInt64.lt_iff_toNat_lt.mpr h))

theorem go_shr64_one (b : UInt64) : Go.shr64 b 1 = b >>> 1 := go_shr64_lt b 1 (by decide)

theorem go_shl64_ofNat (a : UInt64) {n : Nat} (h : n < 64) : Go.shl64 a (Int64.ofNat n).toUInt64 = a <<< n.toUInt64 := by
  rw [Int64.toUInt64_ofNat']
  exact go_shl64_lt a _ (by rw [toUInt64_toNat h]; exact h)

theorem go_shl32_lt (a : UInt32) (n : UInt64) (h : n.toNat < 32) : Go.shl32 a n = a <<< n.toUInt32 :=
  if_neg (UInt64.not_le.mpr (UInt64.lt_iff_toNat_lt.mpr h))

theorem go_shr32_lt (a : UInt32) (n : UInt64) (h : n.toNat < 32) : Go.shr32 a n = a >>> n.toUInt32 :=
  if_neg (UInt64.not_le.mpr (UInt64.lt_iff_toNat_lt.mpr h))

@[simp] theorem M.ok_bind {α β : Type} (a : α) (f : α → Go.M β) : ((Except.ok a : Go.M α) >>= f) = f a := rfl
@[simp] theorem M.error_bind {α β : Type} (e : Panic) (f : α → Go.M β) : ((Except.error e : Go.M α) >>= f) = .error e := rfl
@[simp] theorem M.pure_eq {α : Type} (a : α) : (pure a : Go.M α) = .ok a := rfl

/-- the model's `Option` (`none`: Go would panic at an index or slice expression) as a computation of the translated code -/
def Go.ofOpt {α : Type} : Option α → Go.M α
  | some a => .ok a
  | none => .error .runtime

@[simp] theorem Go.ofOpt_some {α : Type} (a : α) : Go.ofOpt (some a) = .ok a := rfl
@[simp] theorem Go.ofOpt_none {α : Type} : Go.ofOpt (none : Option α) = .error .runtime := rfl

theorem Go.ofOpt_ite {α : Type} (c : Prop) [Decidable c] (a : α) :
    Go.ofOpt (if c then some a else none) = if c then .ok a else .error .runtime := by
  split <;> rfl

theorem glen_eq {α : Type} (l : List α) : Go.glen l = Int64.ofNat l.length := rfl

theorem pos_ofNat {i b : Nat} (hi : i < 2 ^ 63) : Go.pos? (Int64.ofNat i) b = if i < b then some i else none := by
  simp only [Go.pos?, Int64.toInt_ofNat_of_lt hi, Int.toNat_natCast]
  by_cases h : i < b <;> simp [h]

theorem pos_nonneg (x : Int64) (h0 : 0 ≤ x.toInt) (b : Nat) :
    Go.pos? x (b + 1) = if x.toInt.toNat ≤ b then some x.toInt.toNat else none := by
  simp only [Go.pos?, h0, true_and, Nat.lt_succ_iff]

theorem idx_ofNat {α : Type} (l : List α) {i : Nat} (hi : i < 2 ^ 63) : Go.idx l (Int64.ofNat i) = Go.ofOpt l[i]? := by
  simp only [Go.idx, pos_ofNat hi]
  by_cases h : i < l.length
  · simp [h]
  · simp [h]

theorem idx_some {α : Type} {l : List α} {i : Nat} {x : α} (hi : i < 2 ^ 63) (h : l[i]? = some x) : Go.idx l (Int64.ofNat i) = .ok x :=
  (idx_ofNat l hi).trans (congrArg Go.ofOpt h)

theorem idx_getElem {α : Type} (l : List α) {j : Nat} (hj : j < l.length) (hl : l.length < 2 ^ 63) :
    Go.idx l (Int64.ofNat j) = .ok l[j] :=
  idx_some (by omega) (List.getElem?_eq_getElem hj)

/-- `len(x) == 0`, `x[0]` and `x[1:]` of a non-empty slice -/
theorem glen_cons_beq_zero {α : Type} (a : α) {l : List α} (h : l.length + 1 < 2 ^ 63) : (Go.glen (a :: l) == 0) = false :=
  (i64_ofNat_beq (b := 0) h (Nat.two_pow_pos 63)).trans (decide_eq_false (Nat.succ_ne_zero _))

theorem idx_cons_zero {α : Type} (a : α) (l : List α) : Go.idx (a :: l) 0 = .ok a := by rfl

theorem sliceFrom_cons_one {α : Type} (a : α) (l : List α) : Go.sliceFrom (a :: l) 1 = .ok l := by rfl

theorem sliceTo_ofNat {α : Type} (l : List α) {j : Nat} (hj : j < 2 ^ 63) :
    Go.sliceTo l (Int64.ofNat j) = if j ≤ l.length then .ok (l.take j) else .error .runtime := by
  simp only [Go.sliceTo, pos_ofNat hj, Nat.lt_succ_iff]
  by_cases h : j ≤ l.length <;> simp [h]

theorem sliceFrom_ofNat {α : Type} (l : List α) {i : Nat} (hi : i < 2 ^ 63) :
    Go.sliceFrom l (Int64.ofNat i) = if i ≤ l.length then .ok (l.drop i) else .error .runtime := by
  simp only [Go.sliceFrom, pos_ofNat hi, Nat.lt_succ_iff]
  by_cases h : i ≤ l.length <;> simp [h]

theorem sliceTo_le {α : Type} (l : List α) {j : Nat} (hj : j ≤ l.length) (hl : l.length < 2 ^ 63) :
    Go.sliceTo l (Int64.ofNat j) = .ok (l.take j) := by
  rw [sliceTo_ofNat _ (Nat.lt_of_le_of_lt hj hl), if_pos hj]

theorem sliceFrom_le {α : Type} (l : List α) {j : Nat} (hj : j ≤ l.length) (hl : l.length < 2 ^ 63) :
    Go.sliceFrom l (Int64.ofNat j) = .ok (l.drop j) := by
  rw [sliceFrom_ofNat _ (Nat.lt_of_le_of_lt hj hl), if_pos hj]

theorem setIdx_ofNat {α : Type} (l : List α) {i : Nat} (hi : i < 2 ^ 63) (f : α → α) :
    Go.setIdx l (Int64.ofNat i) f = if i < l.length then .ok (l.modify i f) else .error .runtime := by
  simp only [Go.setIdx, pos_ofNat hi]
  by_cases h : i < l.length <;> simp [h]

theorem slice_ofNat {α : Type} (l : List α) {a b : Nat} (ha : a < 2 ^ 63) (hb : b < 2 ^ 63) :
    Go.slice l (Int64.ofNat a) (Int64.ofNat b) = Go.ofOpt (if a ≤ b ∧ b ≤ l.length then some ((l.take b).drop a) else none) := by
  simp only [Go.slice, pos_ofNat ha, pos_ofNat hb, Nat.lt_succ_iff]
  by_cases h2 : b ≤ l.length
  · by_cases h1 : a ≤ b
    · simp [h1, h2, Nat.le_trans h1 h2]
    · by_cases h3 : a ≤ l.length <;> simp [h1, h2, h3]
  · by_cases h3 : a ≤ l.length <;> simp [h2, h3]

theorem idx_mid {α : Type} (a b : List α) (x : α) (h : a.length < 2 ^ 63) :
    Go.idx (a ++ x :: b) (Int64.ofNat a.length) = .ok x := by
  rw [idx_ofNat _ h]; simp

theorem setIdx_mid {α : Type} (a b : List α) (x : α) (f : α → α) (h : a.length < 2 ^ 63) :
    Go.setIdx (a ++ x :: b) (Int64.ofNat a.length) f = .ok (a ++ f x :: b) := by
  rw [setIdx_ofNat _ h, if_pos (by simp)]
  exact congrArg Except.ok (List.modifyTailIdx_add _ 0 a (x :: b))

/-- `if c(x[j]) { x[j] = f(x[j]) }` at `j = len(a)` of `a ++ x :: b`, as the translator writes it -/
theorem update_mid {α : Type} (a b : List α) (x : α) (c : α → Prop) [DecidablePred c] (f : α → α → α) (h : a.length < 2 ^ 63) :
    (((Go.idx (a ++ x :: b) (Int64.ofNat a.length)) >>= fun e => (pure (decide (c e)) : Go.M Bool)) >>= fun t =>
      if t then
        (Go.idx (a ++ x :: b) (Int64.ofNat a.length)) >>= fun e =>
        (Go.setIdx (a ++ x :: b) (Int64.ofNat a.length) (f e)) >>= fun l => pure l
      else pure (a ++ x :: b)) = .ok (a ++ (if c x then f x x else x) :: b) := by
  rw [idx_mid a b x h]
  by_cases hc : c x
  · rw [if_pos hc]; simp only [M.ok_bind, M.pure_eq, decide_eq_true hc, if_true, setIdx_mid a b x _ h]
  · rw [if_neg hc]; simp only [M.ok_bind, M.pure_eq, decide_eq_false hc, Bool.false_eq_true, if_false]

theorem setIdx_const (l : List UInt64) {i : Nat} (hi : i < 2 ^ 63) (u : UInt64) :
    Go.setIdx l (Int64.ofNat i) (fun _ => u) = Go.ofOpt (setIdx? l i u) := by
  rw [setIdx_ofNat _ hi, setIdx?, List.modify_eq_set, Go.ofOpt_ite]

theorem setIdx?_length {d d' : List UInt64} {j : Nat} {u : UInt64} (h : setIdx? d j u = some d') : d'.length = d.length ∧ j < d.length := by
  rw [setIdx?] at h
  split at h
  · rw [← Option.some.inj h, List.length_set]; exact ⟨rfl, ‹_›⟩
  · cases h

theorem sliceTo_slice? (data : List UInt64) {b : Nat} (hb : b < 2 ^ 63) :
    Go.sliceTo data (Int64.ofNat b) = Go.ofOpt (slice? data 0 b) := by
  rw [sliceTo_ofNat _ hb, slice?, Go.ofOpt_ite]
  simp only [Nat.zero_le, true_and, List.drop_zero]

theorem slice_slice? (data : List UInt64) {a b : Nat} (ha : a < 2 ^ 63) (hb : b < 2 ^ 63) :
    Go.slice data (Int64.ofNat a) (Int64.ofNat b) = Go.ofOpt (slice? data a b) := slice_ofNat data ha hb

theorem sliceFrom_slice? (data : List UInt64) {a : Nat} (ha : a < 2 ^ 63) :
    Go.sliceFrom data (Int64.ofNat a) = Go.ofOpt (slice? data a data.length) := by
  rw [sliceFrom_ofNat _ ha, slice?, Go.ofOpt_ite]
  simp only [Nat.le_refl, and_true, List.take_length]

theorem ite_and {α : Type} (p q : Prop) [Decidable p] [Decidable q] (a b : α) :
    (if p ∧ q then a else b) = if p then if q then a else b else b := by
  by_cases hp : p <;> simp [hp]

/-- The `while` rule for a loop of the translation, which is a function `F fuel s` by recursion on `fuel`: `F 0 s` is the fuel panic,
    `F (fuel + 1) s` the body, which ends or calls `F fuel s'`.  `s` are the loop's variables (a tuple), `Inv s` what holds of them at
    the head of the loop, `μ s` a bound on the iterations still to come, `Post s r` what is claimed of the result `r` of the loop
    entered in state `s` — an equation `r = spec s`, or `∃ j', r = .ok (j', spec s)` when a component of the result does not matter.
    `step` looks at ONE unfolding: the loop ends there (guard false, `break`, `return`), or the body reaches the recursive call in a
    state `s'` whose claim implies the claim for `s` (for an equation: `spec s' = spec s`).  No monad is mentioned: the result type
    `β` is `Go.M _`, the run of a script against an oracle, a `Prog`. -/
theorem fuel_loop {σ β : Type} (F : Nat → σ → β) (Post : σ → β → Prop) (Inv : σ → Prop) (μ : σ → Nat)
    (step : ∀ fuel s, Inv s → Post s (F (fuel + 1) s) ∨
      ∃ s', F (fuel + 1) s = F fuel s' ∧ Inv s' ∧ μ s' < μ s ∧ ∀ r, Post s' r → Post s r) :
    ∀ fuel s, Inv s → μ s < fuel → Post s (F fuel s) := by
  intro fuel
  induction fuel with
  | zero => intro s _ h; omega
  | succ fuel ih =>
    intro s hs hf
    rcases step fuel s hs with h | ⟨s', h, hs', hμ, hp⟩
    · exact h
    · rw [h]; exact hp _ (ih s' hs' (by omega))

/-- induction for a loop of the translation run with fuel `fT` that ends within `n` further rounds: one unfolding lowers both -/
theorem fuel_ind {motive : (n fT : Nat) → n < fT → Prop} (zero : ∀ f, motive 0 (f + 1) (Nat.succ_pos f))
    (succ : ∀ n f (h : n < f), motive n f h → motive (n + 1) (f + 1) (Nat.succ_lt_succ h)) : ∀ n fT (h : n < fT), motive n fT h
  | 0, f + 1, _ => zero f
  | n + 1, f + 1, h => succ n f (Nat.lt_of_succ_lt_succ h) (fuel_ind zero succ n f _)

/-- `fuel_loop` for `for j := range l` as the translator writes it (guard `j < len(l)`, element `l[j]`, `j++`): `F fuel s j` is the
    loop with the variables `s` other than the index, and `Post j rest s r` is what is claimed of the result `r` of the loop entered
    at index `j` with `rest = l.drop j` still to come — so a loop that computes a function of the remaining elements by recursion on
    the list is stated with that function.  `atEnd` and `inside` are one unfolding each, given the guard and `l[j]` as the
    translation spells them (`j++` is `i64_ofNat_succ`): neither needs to mention bounds of `Int64`. -/
theorem range_loop {α σ β : Type} (l : List α) (hl : l.length < 2 ^ 63) (F : Nat → σ → Int64 → β) (Post : Nat → List α → σ → β → Prop)
    (atEnd : decide (Int64.ofNat l.length < Go.glen l) = false → ∀ fuel s, Post l.length [] s (F (fuel + 1) s (Int64.ofNat l.length)))
    (inside : ∀ j (h : j < l.length), decide (Int64.ofNat j < Go.glen l) = true → Go.idx l (Int64.ofNat j) = .ok l[j] → ∀ fuel s,
      Post j (l[j] :: l.drop (j + 1)) s (F (fuel + 1) s (Int64.ofNat j)) ∨
      ∃ s', F (fuel + 1) s (Int64.ofNat j) = F fuel s' (Int64.ofNat (j + 1)) ∧
        ∀ r, Post (j + 1) (l.drop (j + 1)) s' r → Post j (l[j] :: l.drop (j + 1)) s r) :
    ∀ fuel j s, j ≤ l.length → l.length - j < fuel → Post j (l.drop j) s (F fuel s (Int64.ofNat j)) := by
  intro fuel j s hj hf
  refine fuel_loop (fun fuel (p : Nat × σ) => F fuel p.2 (Int64.ofNat p.1)) (fun p => Post p.1 (l.drop p.1) p.2)
    (fun p => p.1 ≤ l.length) (fun p => l.length - p.1) ?_ fuel (j, s) hj hf
  rintro fuel ⟨j, s⟩ (hj : j ≤ l.length)
  show Post j (l.drop j) s (F _ s _) ∨ _
  by_cases h : j < l.length
  · rw [List.drop_eq_getElem_cons h]
    rcases inside j h ((i64_ofNat_lt (by omega) hl).trans (decide_eq_true h)) (idx_getElem l h hl) fuel s with e | ⟨s', e, e'⟩
    · exact Or.inl e
    · exact Or.inr ⟨(j + 1, s'), e, h, by show l.length - (j + 1) < l.length - j; omega, e'⟩
  · obtain rfl : j = l.length := by omega
    rw [List.drop_length]
    exact Or.inl (atEnd (decide_eq_false Int64.lt_irrefl) fuel s)

end Rapid
