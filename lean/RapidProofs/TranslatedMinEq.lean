/-
  RapidProofs.TranslatedMinEq — `minimize` and the `minimizer` of shrink.go as translated from /repo on
  every run (RapidModel/Generated/Translated.lean) compute the result of the model's `minimize`
  (RapidModel/Minimize.lean): with enough fuel the translated loops terminate (no `Panic.fuel`) and return
  the model's `best`.  The model also logs the probes; the source does not.
-/
import RapidModel.Generated.Translated
import RapidProofs.GoLemmas
import RapidProofs.MinimizeExact

namespace Rapid


/-- the callback of the source takes a label as well -/
def lcond (cond : UInt64 → Bool) : UInt64 → String → Bool := fun u _ => cond u

theorem small_eq : small = 5 := rfl

theorem tr_accept (cond : UInt64 → Bool) (best u : UInt64) (ps : List UInt64) (l : String) :
    Translated.minimizer_accept best (lcond cond) u l =
      .ok (((⟨best, ps⟩ : MinSt).accept cond u).2, ((⟨best, ps⟩ : MinSt).accept cond u).1.best) := by
  rw [Translated.minimizer_accept, MinSt.accept, small_eq, lcond, ← Bool.decide_or]
  by_cases hg : u ≥ best ∨ u < 5
  · rw [if_pos hg, decide_eq_true hg]; rfl
  · rw [if_neg hg, decide_eq_false hg]; cases cond u <;> rfl

/-! The loops of the minimizer are stated for every state `m` of the model's minimizer; the source keeps only `m.best`. -/

section loops
variable {cond : UInt64 → Bool}

theorem tr_accept_bind {β : Type} (m : MinSt) (u : UInt64) (l : String) (k : Bool × UInt64 → Go.M β) :
    (Translated.minimizer_accept m.best (lcond cond) u l >>= k) = k ((m.accept cond u).2, (m.accept cond u).1.best) := by
  rw [tr_accept cond m.best u m.probes l]; rfl

theorem tr_rShiftLoop (n : Nat) (m : MinSt) (fT : Nat) (hn : len64 m.best ≤ n) (hf : n < fT) :
    Translated.minimizer_rShift_loop1 (lcond cond) fT m.best = .ok (rShift cond n m).best := by
  induction n, fT, hf using fuel_ind generalizing m with
  | zero f =>
    -- `best = 0`: the model has stopped, the source makes one more call of `accept`, which asks nothing
    rw [Translated.minimizer_rShift_loop1, go_shr64_one, tr_accept_bind,
      MinSt.accept_of_ge (by rw [len64_eq_zero (Nat.le_zero.mp hn)]; exact UInt64.zero_le)]
    rfl
  | succ n f _ ih =>
    rw [Translated.minimizer_rShift_loop1, go_shr64_one, tr_accept_bind, rShift]
    have hb := accept_best cond m (m.best >>> 1)
    generalize m.accept cond (m.best >>> 1) = r at hb ⊢
    obtain ⟨m', ok⟩ := r
    cases ok
    · rfl
    · exact ih m' (hb ▸ len64_shr1 hn)

theorem tr_unsetBitsLoop (n : Nat) (m : MinSt) (fT : Nat) (hn : n ≤ 64) (hf : n < fT) :
    Translated.minimizer_unsetBits_loop1 (lcond cond) fT (Int64.ofNat n - 1) m.best =
      .ok (Int64.ofNat 0 - 1, (unsetBits cond n m).best) := by
  induction n, fT, hf using fuel_ind generalizing m with
  | zero f => rw [Translated.minimizer_unsetBits_loop1, i64_negOne_not_nonneg]; rfl
  | succ n f _ ih =>
    rw [Translated.minimizer_unsetBits_loop1, i64_ofNat_pred, i64_ofNat_nonneg (Nat.lt_trans hn (by decide)), if_pos rfl,
      go_shl64_ofNat _ hn, tr_accept_bind, unsetBits]
    exact ih _ (Nat.le_of_succ_le hn)

theorem tr_sortInner (i : Nat) (h : UInt64) (hi : i ≤ 64) (n j : Nat) (m : MinSt) (fT : Nat) (hj : j + n = i) (hf : n < fT) :
    ∃ j', Translated.minimizer_sortBits_loop2 h (Int64.ofNat i) (lcond cond) fT (Int64.ofNat j) m.best =
      .ok (j', (sortInner cond i h n j m).best) := by
  induction n, fT, hf using fuel_ind generalizing j m with
  | zero f =>
    obtain rfl : j = i := hj
    rw [Translated.minimizer_sortBits_loop2, decide_eq_false Int64.lt_irrefl]
    exact ⟨_, rfl⟩
  | succ n f _ ih =>
    have hjlt : j < i := hj ▸ Nat.lt_add_of_pos_right (Nat.succ_pos n)
    have h64 : j < 64 := Nat.lt_of_lt_of_le hjlt hi
    have hj := (Nat.add_right_comm j 1 n).trans hj
    rw [Translated.minimizer_sortBits_loop2,
      (i64_ofNat_lt (Nat.lt_trans h64 (by decide)) (Nat.lt_of_le_of_lt hi (by decide))).trans (decide_eq_true hjlt), if_pos rfl,
      sortInner, if_pos hjlt]
    dsimp only
    rw [go_shl64_ofNat _ h64, i64_ofNat_succ]
    by_cases hz : (m.best &&& (1 : UInt64) <<< j.toUInt64) == 0
    · rw [if_pos hz, if_pos hz, tr_accept_bind]
      generalize m.accept cond (m.best ^^^ ((1 : UInt64) <<< j.toUInt64 ||| h)) = r
      obtain ⟨m', ok⟩ := r
      cases ok
      · exact ih (j + 1) m' hj
      · exact ⟨_, rfl⟩
    · rw [if_neg hz, if_neg hz]
      exact ih (j + 1) m hj

theorem tr_sortBitsLoop (n : Nat) (m : MinSt) (fT : Nat) (hn : n ≤ 64) (hf : n < fT) :
    Translated.minimizer_sortBits_loop1 (lcond cond) fT (Int64.ofNat n - 1) m.best =
      .ok (Int64.ofNat 0 - 1, (sortBits cond n m).best) := by
  induction n, fT, hf using fuel_ind generalizing m with
  | zero f => rw [Translated.minimizer_sortBits_loop1, i64_negOne_not_nonneg]; rfl
  | succ n f hf ih =>
    have hn' := Nat.le_of_succ_le hn
    rw [Translated.minimizer_sortBits_loop1, i64_ofNat_pred, i64_ofNat_nonneg (Nat.lt_trans hn (by decide)), if_pos rfl, sortBits]
    dsimp only
    rw [go_shl64_ofNat _ hn]
    by_cases hb : (m.best &&& (1 : UInt64) <<< n.toUInt64) != 0
    · obtain ⟨j', hj'⟩ := tr_sortInner (cond := cond) n ((1 : UInt64) <<< n.toUInt64) hn' n 0 m f (Nat.zero_add n) hf
      rw [if_pos hb, if_pos hb, i64_zero_ofNat, hj']
      exact ih _ hn'
    · rw [if_neg hb, if_neg hb]
      exact ih m hn'

/-- the binary search on `[i, j)` shorter than `2^k`, the model having one unit of fuel more than that needs (as `binSearch`
    gives it) -/
theorem tr_binLoop (k : Nat) (i j : UInt64) (m : MinSt) (fT : Nat) (hd : j.toNat < i.toNat + 2 ^ k) (hf : k < fT) :
    ∃ i' j', Translated.minimizer_binSearch_loop1 (lcond cond) fT i j m.best = .ok (i', j', (binLoop cond (k + 1) i j m).best) := by
  induction k, fT, hf using fuel_ind generalizing i j m with
  | zero f =>
    have hnlt : ¬ i < j := fun hlt => Nat.not_le.mpr hd (UInt64.lt_iff_toNat_lt.mp hlt)
    rw [Translated.minimizer_binSearch_loop1, decide_eq_false hnlt, binLoop, if_neg hnlt]
    exact ⟨_, _, rfl⟩
  | succ k f _ ih =>
    rw [Translated.minimizer_binSearch_loop1, binLoop]
    -- kept folded: the unifier would unfold it once more instead of reducing the `if` on `ok`
    generalize binLoop cond (k + 1) = loop at ih ⊢
    by_cases hlt : i < j
    · obtain ⟨hl, hr⟩ := u64_mid_halves hlt hd
      rw [decide_eq_true hlt, if_pos rfl, if_pos hlt]
      dsimp only
      rw [tr_accept_bind]
      generalize m.accept cond (i + (j - i) / 2) = r
      obtain ⟨m', ok⟩ := r
      cases ok
      · exact ih _ j m' hr
      · exact ih i _ m' hl
    · rw [decide_eq_false hlt, if_neg hlt]
      exact ⟨_, _, rfl⟩

theorem tr_trySmall (u : UInt64) (n : Nat) (i : UInt64) (ps : List UInt64) (fT : Nat)
    (h5 : small.toNat ≤ i.toNat + n) (hf : n < fT) :
    ∃ i', Translated.minimize_loop1 (lcond cond) u fT i = .ok (i', (trySmall cond u n i ps).1) := by
  induction n, fT, hf using fuel_ind generalizing i ps with
  | zero f =>
    rw [Translated.minimize_loop1, ← Bool.decide_and,
      decide_eq_false fun h : i < u ∧ i < 5 => Nat.not_lt.mpr h5 (UInt64.lt_iff_toNat_lt.mp h.2)]
    exact ⟨i, rfl⟩
  | succ n f _ ih =>
    rw [Translated.minimize_loop1, ← Bool.decide_and, trySmall]
    by_cases hc : i < u ∧ i < small
    · rw [decide_eq_true (show i < u ∧ i < 5 from hc), if_pos rfl, if_pos hc, lcond]
      cases cond i
      · refine ih (i + 1) (i :: ps) ?_
        rw [u64_succ_toNat hc.2, Nat.add_right_comm]
        exact h5
      · exact ⟨i, rfl⟩
    · rw [decide_eq_false (show ¬ (i < u ∧ i < 5) from hc), if_neg hc]
      exact ⟨i, rfl⟩

end loops

theorem tr_rShift (cond : UInt64 → Bool) (best : UInt64) (ps : List UInt64) (fuel : Nat) (hf : 64 < fuel) :
    Translated.minimizer_rShift best (lcond cond) fuel = .ok (rShift cond 64 ⟨best, ps⟩).best := by
  rw [Translated.minimizer_rShift, tr_rShiftLoop 64 ⟨best, ps⟩ fuel (len64_le_64 _) hf]; rfl

theorem tr_unsetBits (cond : UInt64 → Bool) (best : UInt64) (ps : List UInt64) (fuel : Nat) (hf : 64 < fuel) :
    Translated.minimizer_unsetBits best (lcond cond) fuel = .ok (unsetBits cond (len64 best) ⟨best, ps⟩).best := by
  simp only [Translated.minimizer_unsetBits, Go.len64]
  rw [tr_unsetBitsLoop _ ⟨best, ps⟩ fuel (len64_le_64 _) (Nat.lt_of_le_of_lt (len64_le_64 _) hf)]; rfl

theorem tr_sortBits (cond : UInt64 → Bool) (best : UInt64) (ps : List UInt64) (fuel : Nat) (hf : 130 < fuel) :
    Translated.minimizer_sortBits best (lcond cond) fuel = .ok (sortBits cond (len64 best) ⟨best, ps⟩).best := by
  simp only [Translated.minimizer_sortBits, Go.len64]
  rw [tr_sortBitsLoop _ ⟨best, ps⟩ fuel (len64_le_64 _) (Nat.lt_of_le_of_lt (len64_le_64 _) (Nat.lt_trans (by decide) hf))]; rfl

theorem tr_binSearch (cond : UInt64 → Bool) (best : UInt64) (ps : List UInt64) (fuel : Nat) (hf : 64 < fuel) :
    Translated.minimizer_binSearch best (lcond cond) fuel = .ok (binSearch cond ⟨best, ps⟩).best := by
  rw [Translated.minimizer_binSearch, tr_accept_bind ⟨best, ps⟩, binSearch]
  generalize MinSt.accept cond ⟨best, ps⟩ (best - 1) = r
  obtain ⟨m', ok⟩ := r
  cases ok
  · rfl
  · obtain ⟨i', j', h'⟩ := tr_binLoop (cond := cond) 64 0 m'.best m' fuel (by simpa using m'.best.toNat_lt) hf
    show (Translated.minimizer_binSearch_loop1 (lcond cond) fuel 0 m'.best m'.best >>= _) = _
    rw [h']; rfl

/-- **`minimize(u, cond)` of /repo computes the result of the model's `minimize`** -/
theorem tr_minimize (u : UInt64) (cond : UInt64 → Bool) (fuel : Nat) (hf : 130 < fuel) :
    Translated.minimize u (lcond cond) fuel = .ok (minimize u cond).1 := by
  have h64 : 64 < fuel := Nat.lt_trans (by decide) hf
  rw [Translated.minimize, minimize]
  by_cases h0 : (u == 0) = true
  · rw [if_pos h0, if_pos h0]; rfl
  · rw [if_neg h0, if_neg h0]
    obtain ⟨i', h'⟩ := tr_trySmall (cond := cond) u 5 0 [] fuel (Nat.le_refl 5) (Nat.lt_trans (by decide) h64)
    dsimp only
    rw [h', M.ok_bind]
    obtain ⟨_ | i, probes⟩ := trySmall cond u 5 0 []
    · dsimp only
      by_cases hle : u ≤ small
      · rw [decide_eq_true (show u ≤ 5 from hle), if_pos rfl, if_pos hle]; rfl
      · rw [decide_eq_false (show ¬ u ≤ 5 from hle), if_neg Bool.false_ne_true, if_neg hle]
        dsimp only
        rw [tr_rShift cond u probes fuel h64, M.ok_bind]
        obtain ⟨b, ps⟩ := rShift cond 64 ⟨u, probes⟩
        rw [tr_unsetBits cond b ps fuel h64, M.ok_bind]
        obtain ⟨b, ps⟩ := unsetBits cond (len64 b) ⟨b, ps⟩
        rw [tr_sortBits cond b ps fuel hf, M.ok_bind]
        obtain ⟨b, ps⟩ := sortBits cond (len64 b) ⟨b, ps⟩
        rw [tr_binSearch cond b ps fuel h64]
        rfl
    · rfl

theorem tr_compareLoop (a b : List UInt64) (hl : a.length = b.length) (hn : a.length < 2 ^ 62) (fT : Nat) (hf : a.length < fT) :
    ∃ i', Translated.compareData_loop1 a b (Go.glen a) fT (Int64.ofNat 0) =
      .ok (i', if cmpLex a b = 0 then none else some (Int64.ofInt (cmpLex a b))) := by
  have := range_loop a (Nat.lt_trans hn (by decide)) (fun fT (_ : Unit) j => Translated.compareData_loop1 a b (Go.glen a) fT j)
    (fun j rest _ r => ∃ i', r = .ok (i', if cmpLex rest (b.drop j) = 0 then none else some (Int64.ofInt (cmpLex rest (b.drop j)))))
    ?_ ?_ fT 0 () (Nat.zero_le _) hf
  · rwa [List.drop_zero, List.drop_zero] at this
  · intro hge fT _
    refine ⟨Go.glen a, ?_⟩
    rw [List.drop_of_length_le (Nat.le_of_eq hl.symm)]
    simp only [Translated.compareData_loop1, hge, Bool.false_eq_true, if_false, cmpLex, M.pure_eq, if_true]; rfl
  · intro j h hlt hidx fT _
    have hj : j < b.length := hl ▸ h
    rw [Translated.compareData_loop1, List.drop_eq_getElem_cons hj]
    simp only [hlt, if_true, hidx, idx_getElem b hj (hl ▸ Nat.lt_trans hn (by decide)), M.ok_bind, M.pure_eq, cmpLex, i64_ofNat_succ]
    by_cases h1 : a[j] < b[j]
    · simp only [h1, decide_true, if_true]; exact Or.inl ⟨_, rfl⟩
    · by_cases h2 : a[j] > b[j]
      · simp only [h1, h2, decide_true, decide_false, Bool.false_eq_true, if_false, if_true]; exact Or.inl ⟨_, rfl⟩
      · simp only [h1, h2, decide_false, Bool.false_eq_true, if_false]
        exact Or.inr ⟨(), trivial, fun r h => h⟩

/-- **`compareData` of /repo is the model's `compareData`** (length first, then lexicographic) -/
theorem tr_compareData (a b : List UInt64) (fuel : Nat) (ha : a.length < 2 ^ 62) (hb : b.length < 2 ^ 62) (hf : a.length < fuel) :
    Translated.compareData a b fuel = .ok (Int64.ofInt (compareData a b)) := by
  have ha' : a.length < 2 ^ 63 := Nat.lt_trans ha (by decide)
  have hb' : b.length < 2 ^ 63 := Nat.lt_trans hb (by decide)
  rw [Translated.compareData, compareData,
    show decide (Go.glen a < Go.glen b) = decide (a.length < b.length) from i64_ofNat_lt ha' hb',
    show decide (Go.glen a > Go.glen b) = decide (a.length > b.length) from i64_ofNat_lt hb' ha']
  by_cases h1 : a.length < b.length
  · rw [decide_eq_true h1, if_pos rfl, if_pos h1]; rfl
  · rw [decide_eq_false h1, if_neg Bool.false_ne_true, if_neg h1]
    by_cases h2 : a.length > b.length
    · rw [decide_eq_true h2, if_pos rfl, if_pos h2]; rfl
    · rw [decide_eq_false h2, if_neg Bool.false_ne_true, if_neg h2]
      obtain ⟨i', h'⟩ := tr_compareLoop a b (Nat.le_antisymm (Nat.le_of_not_lt h2) (Nat.le_of_not_lt h1)) ha fuel hf
      dsimp only
      rw [i64_zero_ofNat, h']
      by_cases hc : cmpLex a b = 0
      · rw [if_pos hc, hc]; rfl
      · rw [if_neg hc]; rfl

end Rapid
