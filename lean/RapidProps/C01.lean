/-
  C01 — a reported failure is real.

  Full statement (for every property `p`, every seed, checks, fail-file set, early-exit
  oracle and EVERY candidate sequence of the shrinker — i.e. minimization cut short at any
  point): if `checkTB` reports a failure, the reported buffer makes `p` fail with the reported
  error when run on a fresh `*T`; the verdict is never "flaky"; a reported error is never an
  invalid (skipped) test case.

  Hypothesis `PruneStable p`: the pruned recording of a failing run of `p` fails the same way
  (L-PS).  It is proved for classes of generators and property functions in `RapidProofs/PruneGen.lean`,
  `PruneCustom.lean`, `PruneProp.lean` (theorems `pruneStable_of_property*` below); it is false
  for programs in which an action is skipped after consuming bits of a discarded group
  (known finding D2), which is why it is a hypothesis here and not a lemma about all `Prog`.
-/
import RapidModel.Generated.CallOrders
import RapidProofs.PruneProp
import RapidProofs.TranslatedCheckEq

namespace Rapid.C01

/-- the buffer and error handed to `checkTB` reproduce; both errors have the same traceback -/
theorem reported_failure_replays (p : Prog) (hps : PruneStable p) (checks : Nat) (seed : UInt64)
    (files : List FF) (early : Nat → Bool) (cands : List (List UInt64)) :
    let d := doCheck p checks seed files early cands
    (d.err1.isSome ∨ d.err2.isSome) →
      tbKey d.err1 = tbKey d.err2 ∧ d.err2 = (checkOnce p (.buf d.buf) TS.fresh).err ∧
      ∃ e, d.err2 = some e ∧ e.isInvalid = false :=
  doCheck_reported p hps checks seed files early cands

/-- never flaky; "failed after …" names an error that the final replay reproduces -/
theorem never_flaky_and_final_replay_fails (p : Prog) (hps : PruneStable p) (checks : Nat) (seed : UInt64)
    (files : List FF) (early : Nat → Bool) (cands : List (List UInt64)) :
    match verdict checks (doCheck p checks seed files early cands) with
    | .flaky _ _ => False
    | .failed _ e _ buf => (checkOnce p (.buf buf) TS.fresh).err = some e ∧ e.isInvalid = false
    | _ => True :=
  verdict_of_doCheck p hps checks seed files early cands

/-- no phantom failure: the test case `findBug` blames fails by itself, on a fresh `*T` -/
theorem blamed_case_fails (p : Prog) (checks : Nat) (seed : UInt64) (early : Nat → Bool) (e : Err)
    (h : (findBug p checks seed early).err = some e) :
    e.isInvalid = false ∧
    (checkOnce p (.rng (Jsf.init (findBug p checks seed early).seed)) TS.fresh).err = some e :=
  findBug_blame p checks seed early e h

/-- the shrinker never sees its second run disagree with the first -/
theorem no_mid_shrink_mismatch (p : Prog) (s : Shr) (c d : List UInt64) (e : Option Err) :
    accept p s c ≠ .mismatch d e := accept_no_mismatch p s c d e

/-- **L-PS discharged**: for property functions that draw from any nesting of the built-in
    generators (no Custom) and use the `*T` API, the hypothesis `PruneStable` holds whenever
    failing test cases end with the body producing a value or a failure (`BodyGood`; it
    excludes "Errorf, then Skip" and running out of model fuel) -/
theorem pruneStable_of_property (e : Env) (hrt : RTPos e) (p : Prog) (hp : PropProg e p) (hbg : BodyGood p) :
    PruneStable p := pruneStable_of_ps (propProg_ps e hrt hp) hbg

/-- end to end: such a property is never reported as flaky and the final replay fails as reported,
    for every seed, checks, fail files, clock and candidate sequence of the shrinker -/
theorem reported_failure_is_real (e : Env) (hrt : RTPos e) (p : Prog) (hp : PropProg e p) (hbg : BodyGood p)
    (checks : Nat) (seed : UInt64) (files : List FF) (early : Nat → Bool) (cands : List (List UInt64)) :
    match verdict checks (doCheck p checks seed files early cands) with
    | .flaky _ _ => False
    | .failed _ er _ buf => (checkOnce p (.buf buf) TS.fresh).err = some er ∧ er.isInvalid = false
    | _ => True :=
  verdict_of_doCheck p (pruneStable_of_property e hrt p hp hbg) checks seed files early cands

/-- the same with `Custom` generators nested to any depth `d`, whose functions draw, branch, skip,
    panic and register quiet cleanups but do not call `T.Error*/Fatal*` (`GenLvl`, `PropProgC`) -/
theorem pruneStable_of_property_with_custom (e : Env) (hrt : RTPos e) (d : Nat) (p : Prog) (hp : PropProgC e d p)
    (hbg : BodyGood p) : PruneStable p := pruneStable_of_ps (propProgC_ps e hrt hp) hbg

theorem reported_failure_is_real_with_custom (e : Env) (hrt : RTPos e) (d : Nat) (p : Prog) (hp : PropProgC e d p)
    (hbg : BodyGood p) (checks : Nat) (seed : UInt64) (files : List FF) (early : Nat → Bool) (cands : List (List UInt64)) :
    match verdict checks (doCheck p checks seed files early cands) with
    | .flaky _ _ => False
    | .failed _ er _ buf => (checkOnce p (.buf buf) TS.fresh).err = some er ∧ er.isInvalid = false
    | _ => True :=
  verdict_of_doCheck p (pruneStable_of_property_with_custom e hrt d p hp hbg) checks seed files early cands

/-- **the source's `doCheck` hands back the model's `doCheck`**: for every property, set of fail files (the one named with
    `-rapid.failfile` first, then what the glob finds), number of checks, base seed, clock of the generation loop and candidate
    sequence of the shrinker — which fail file wins, that the failing seed is run again on a fresh recording `*T` before
    anything is minimized, that a different error there ends the run with both errors and the words drawn, that the
    shrinker starts from that second run — -/
theorem source_doCheck (E : Go.CEnv) (checks : Nat) (hc : checks < 2 ^ 62) (seed : UInt64) (failfile : String) (globf : Bool)
    (fuel : Nat) (hl : (Go.failFileNames failfile globf E.found).length < 2 ^ 62)
    (hfuel : (Go.failFileNames failfile globf E.found).length < fuel) :
    (Go.CM.run E (Translated.doCheck (Int64.ofNat checks) seed failfile globf fuel) none).1 =
      .ok (Go.dcOut (Go.failFileNames failfile globf E.found)
        (doCheck E.p checks seed ((Go.failFileNames failfile globf E.found).map E.file) E.early E.cands)) :=
  Go.tr_doCheck E checks hc seed failfile globf fuel hl hfuel

/-- so what the *source's* `doCheck` reports replays: when it hands back an error, the words it hands back make the property
    fail with that error on a fresh `*T`, and the error is not an invalid test case -/
theorem source_reported_failure_replays (E : Go.CEnv) (hps : PruneStable E.p) (checks : Nat) (hc : checks < 2 ^ 62) (seed : UInt64)
    (failfile : String) (globf : Bool) (fuel : Nat) (hl : (Go.failFileNames failfile globf E.found).length < 2 ^ 62)
    (hfuel : (Go.failFileNames failfile globf E.found).length < fuel)
    (valid invalid : Int64) (early : Bool) (sd : UInt64) (file : String) (buf : List UInt64) (e1 e2 : Option Err)
    (hrun : (Go.CM.run E (Translated.doCheck (Int64.ofNat checks) seed failfile globf fuel) none).1 =
      .ok (valid, invalid, early, sd, file, buf, e1, e2))
    (herr : e1.isSome ∨ e2.isSome) :
    tbKey e1 = tbKey e2 ∧ e2 = (checkOnce E.p (.buf buf) TS.fresh).err ∧ ∃ e, e2 = some e ∧ e.isInvalid = false := by
  rw [source_doCheck E checks hc seed failfile globf fuel hl hfuel] at hrun
  simp only [Go.dcOut, Except.ok.injEq, Prod.mk.injEq] at hrun
  obtain ⟨-, -, -, -, -, hb, h1, h2⟩ := hrun
  subst hb h1 h2
  exact reported_failure_replays E.p hps checks seed _ E.early E.cands herr

/-- properties that leave the `*T` as they found it (`TsPure`: they fail by panicking only — `T.Fatal*/FailNow` set `failed`
    before they panic and are not of this kind) and do not run out of model fuel satisfy `BodyGood` -/
theorem bodyGood_of_fatal_only (p : Prog) (hp : TsPure p) (hfuel : ∀ src, (p.run src TS.fresh).res ≠ .error .fuel) :
    BodyGood p := bodyGood_of_pure hp hfuel

/-- non-vacuity at the level of one test case: `checkOnce` of a concrete property (it fails at site 7) does end with
    an error that is not an invalid test case, the kind of run the conclusion of `blamed_case_fails` speaks of;
    `findBug` is not run here -/
example : (checkOnce (Prog.fatal "boom" 7) (.buf []) TS.fresh).err = some (.stop "boom" 7) := rfl

/-- `captureTestOutput` re-read from /repo statement by statement: the output written to the fail file is that of one more replay of the minimized words on a `T` that logs into a buffer -/
theorem captureTestOutput_body_source : Rapid.Generated.body_captureTestOutput =
    ["{", "var b bytes.Buffer",
     "l := log.New(&b, fmt.Sprintf(\"[%v] \", tb.Name()), log.Lmsgprefix|log.Ldate|log.Ltime|log.Lmicroseconds)",
     "_ = checkOnce(newT(tb, newBufBitStream(buf, false), false, l), prop)", "return b.Bytes()", "}"] := by rfl

/-- `Generator.Draw` re-read from /repo statement by statement: the logged line `[rapid] draw <label>: <value>` prints the value that is returned -/
theorem draw_source : Rapid.Generated.body_Generator_Draw =
    ["{", "if t.tbLog {", "t.tb.Helper()", "}", "v := g.value(t)", "if len(t.refDraws) > 0 {",
     "ref := t.refDraws[t.draws]", "if !reflect.DeepEqual(v, ref) {",
     "t.tb.Fatalf(\"draw %v differs: %#v vs expected %#v\", t.draws, v, ref)", "}", "}",
     "if t.tbLog || t.rawLog != nil {", "if label == \"\" {", "label = fmt.Sprintf(\"#%v\", t.draws)", "}",
     "if t.tbLog {", "t.tb.Helper()", "}", "t.Logf(\"[rapid] draw %v: %#v\", label, v)", "}", "t.draws++",
     "return v", "}"] := by rfl

end Rapid.C01
