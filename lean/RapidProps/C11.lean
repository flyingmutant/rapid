/-
  C11 — test cases are isolated.
-/
import RapidModel.Generated.CallOrders
import RapidProofs.FindBug

namespace Rapid.C11

/-- whatever a test case did, the `*T` it leaves behind has nothing pending: no failure, no
    cleanups, no context -/
theorem leaves_clean (p : Prog) (src : Src) (ts : TS) : Clean (checkOnce p src ts).ts :=
  checkOnce_clean_after p src ts

/-- on a clean `*T` a test case is judged exactly as on a fresh one: same error, same
    recording, same events — nothing carries over -/
theorem judged_on_its_own (p : Prog) (src : Src) (ts : TS) (h : Clean ts) :
    (checkOnce p src ts).err = (checkOnce p src TS.fresh).err ∧
    (checkOnce p src ts).used = (checkOnce p src TS.fresh).used ∧
    (checkOnce p src ts).kept = (checkOnce p src TS.fresh).kept ∧
    (checkOnce p src ts).evs = (checkOnce p src TS.fresh).evs ∧
    (checkOnce p src ts).src = (checkOnce p src TS.fresh).src :=
  checkOnce_clean p src h

/-- the test case `findBug` treats as falsifying is one that really signals that failure when
    run alone -/
theorem blamed_case_is_guilty (p : Prog) (checks : Nat) (seed : UInt64) (early : Nat → Bool) (e : Err)
    (h : (findBug p checks seed early).err = some e) :
    e.isInvalid = false ∧
    (checkOnce p (.rng (Jsf.init (findBug p checks seed early).seed)) TS.fresh).err = some e :=
  findBug_blame p checks seed early e h

/-- "Errorf then Skip": the pending non-fatal failure falsifies THIS test case -/
example : (checkOnce (.errorf "e" (Prog.skip "s")) (.buf []) TS.fresh).err = some (.stop "e" sitePending) := by
  decide
/-- a failure raised from a cleanup callback falsifies THIS test case -/
example : (checkOnce (.cleanup (.errorf "c" .done) (.ret .nil)) (.buf []) TS.fresh).err = some (.stop "c" sitePending) := by
  decide

/-- `runProp` re-read from /repo statement by statement: whatever ended the test case, the record of a skipping cleanup is *taken* (cleared) before the next test case runs on the reused `*T`; it makes the test case invalid only if nothing else ended it (S194 left it behind when the body had panicked) -/
theorem runProp_body_source : Rapid.Generated.body_runProp =
    ["{", "if t.tbLog {", "t.tb.Helper()", "}", "defer func() {", "err = panicToError(recover(), 3)",
     "if id := t.takeSkipped(); id != nil && err == nil {", "err = &testError{data: *id}", "}", "}()",
     "defer t.cleanup()", "prop(t)", "return nil", "}"] := by rfl

/-- `checkOnce` re-read from /repo statement by statement: `runProp`, then the pending non-fatal failure, then `resetFailed` on the reused `*T` -/
theorem checkOnce_body_source : Rapid.Generated.body_checkOnce =
    ["{", "if t.tbLog {", "t.tb.Helper()", "}", "err := runProp(t, prop)", "if err == nil || err.isInvalidData() {",
     "if failed := pendingFailure(t); failed != nil {", "err = failed", "}", "}", "t.resetFailed()", "return err",
     "}"] := by rfl

end Rapid.C11
