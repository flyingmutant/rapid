/-
  RapidProofs.Once — facts about one test case (`checkOnce`): the error it ends with as a function of
  how the body and the cleanups ended (`runPropErr`, `pendingErr`), replay, determinism; the test case
  behind a fail file that counts (`checkFailFile_spec`).
-/
import RapidModel.Engine
import RapidProofs.Replay

namespace Rapid

/-- the body `checkOnce` runs (`runProp`): the property itself -/
def bodyOf (p : Prog) : Prog := p

theorem checkOnce_def (p : Prog) (src : Src) (ts : TS) :
    checkOnce p src ts =
      let o := (bodyOf p).run src { ts with ctxCount := 0 }
      let c := cleanupPhase o.ts
      let err0 : Option Err := match c.err with
        | some e =>
          if e.isInvalid then (match o.res with | .error e0 => some e0 | .ok _ => some e)
          else some (e.nest (cleanupCtx o.res o.ts))
        | none => match o.res with | .error e => some e | .ok _ => none
      let err : Option Err := match c.ts.failed with
        | some m => (match err0 with
            | none => some (.stop m sitePending)
            | some (.invalid _) => some (.stop m sitePending)
            | some e => some e)
        | none => err0
      ⟨err, { c.ts with failed := none }, o.src, o.used, o.kept, o.toks, o.evs ++ c.evs, o.overran⟩ := by
  -- unfolded first, the two sides are compared as they are written; a bare `rfl` has Lean evaluate the `match`es of both
  unfold checkOnce bodyOf
  rfl

/-- what `runProp` returns: how the body ended (`res`) against what the cleanup phase raised (`cerr`, a panic
    with context `cx`) -/
def runPropErr (res : Except Err Val) (cerr : Option Err) (cx : Nat) : Option Err :=
  match cerr with
  | some e =>
    if e.isInvalid then (match res with | .error e0 => some e0 | .ok _ => some e)
    else some (e.nest cx)
  | none => match res with | .error e => some e | .ok _ => none

/-- `pendingFailure` after `runProp` returned `err0` -/
def pendingErr (failed : Option String) (err0 : Option Err) : Option Err :=
  match failed with
  | some m => (match err0 with
      | none => some (.stop m sitePending)
      | some (.invalid _) => some (.stop m sitePending)
      | some e => some e)
  | none => err0

/-- the error of a test case is a function of four small values: facts about it are proved about `pendingErr` and
    `runPropErr` over variables and carried over by this equation -/
theorem checkOnce_err (p : Prog) (src : Src) (ts : TS) :
    (checkOnce p src ts).err =
      pendingErr (cleanupPhase (p.run src { ts with ctxCount := 0 }).ts).ts.failed
        (runPropErr (p.run src { ts with ctxCount := 0 }).res (cleanupPhase (p.run src { ts with ctxCount := 0 }).ts).err
          (cleanupCtx (p.run src { ts with ctxCount := 0 }).res (p.run src { ts with ctxCount := 0 }).ts)) := by
  unfold checkOnce pendingErr runPropErr
  rfl

theorem fresh_ctxCount : ({ TS.fresh with ctxCount := 0 } : TS) = TS.fresh := rfl

def Fails (x : Option Err) : Prop := ∃ e, x = some e ∧ e.isInvalid = false

theorem nest_isInvalid (cx : Nat) (e : Err) : (e.nest cx).isInvalid = e.isInvalid := by cases e <;> rfl

theorem runPropErr_fails {e : Err} (he : e.isInvalid = false) (cerr : Option Err) (cx : Nat) :
    Fails (runPropErr (.error e) cerr cx) := by
  cases cerr with
  | none => exact ⟨e, rfl, he⟩
  | some ec =>
    by_cases hi : ec.isInvalid = true
    · exact ⟨e, by simp [runPropErr, hi], he⟩
    · exact ⟨ec.nest cx, by simp [runPropErr, hi], by simpa [nest_isInvalid] using hi⟩

theorem pendingErr_fails {failed : Option String} {err0 : Option Err} (h : failed.isSome ∨ Fails err0) :
    Fails (pendingErr failed err0) := by
  cases failed with
  | none => exact h.resolve_left nofun
  | some m =>
    rcases err0 with _ | (_ | _ | _ | _)
    all_goals exact ⟨_, rfl, rfl⟩

/-- **L-replay for a test case** -/
theorem checkOnce_replay (p : Prog) (src : Src) (ts : TS) (xs : List UInt64)
    (h : (checkOnce p src ts).overran = false) :
    checkOnce p (.buf ((checkOnce p src ts).used ++ xs)) ts =
      { checkOnce p src ts with src := .buf xs } := by
  have hr : p.run (.buf ((p.run src { ts with ctxCount := 0 }).used ++ xs)) { ts with ctxCount := 0 } = _ :=
    run_replay p src { ts with ctxCount := 0 } xs h
  unfold checkOnce
  rw [hr]

/-- a test case is a function of its inputs: running it twice gives the same error -/
theorem checkOnce_deterministic (p : Prog) (src : Src) (ts : TS) :
    (checkOnce p src ts).err = (checkOnce p src ts).err := rfl

theorem checkOnce_failed_none (p : Prog) (src : Src) (ts : TS) : (checkOnce p src ts).ts.failed = none := rfl

/-- a fail file counts only if its buffer, run again, fails: both errors it reports are that run's -/
theorem checkFailFile_spec {p : Prog} {f : FF} {b : List UInt64} {e1 e2 : Option Err}
    (h : checkFailFile p f = some (b, e1, e2)) :
    e1 = e2 ∧ e2 = (checkOnce p (.buf b) TS.fresh).err ∧ ∃ e, e2 = some e ∧ e.isInvalid = false := by
  revert h
  fun_cases checkFailFile p f
  case case5 e he hinv =>
    rintro ⟨⟩
    exact ⟨rfl, rfl, e, he, by simpa using hinv⟩
  all_goals nofun

end Rapid
