/-
  RapidProofs.SMLogic — rules for showing `Agree` of a translated script (`Go.SM`) with a script of the model, on the programs.

  `Script` is a free monad and `Script.bind` is structural, so at the head of a run a read of the shrinker's state, a `pure` and a
  finished `SM.ofM` step reduce by `rfl` (`SM.exec_data_bind`, `SM.exec_ofM_ok` …): the translated program is run step by step and
  stays a program.  The `Agree.*` rules pair a step of the translated script with the step of the model's script that does the
  same and ask for agreement of the continuations, which are never looked into.  A loop body is first brought into the form
  `step >>= fun a => …` by `SM.bind_assoc`, `SM.ite_bind`, `SM.pure_bind`, `SM.andThen_pure_true`.
-/
import RapidProofs.ScriptExec
import RapidProofs.GoLemmas

namespace Rapid
open Rapid.Go

theorem Script.bind_assoc {α β γ : Type} (x : Script α) (f : α → Script β) (g : β → Script γ) :
    (x >>= f) >>= g = x >>= fun a => f a >>= g := by
  show (x.bind f).bind g = x.bind fun a => (f a).bind g
  induction x with
  | ret a => rfl
  | get k ih => simp only [Script.bind, ih]
  | try_ b k ih => simp only [Script.bind, ih]
  | oob => rfl

theorem Script.ite_bind {α β : Type} (c : Prop) [Decidable c] (x y : Script α) (f : α → Script β) :
    (if c then x else y) >>= f = if c then x >>= f else y >>= f := by
  split <;> rfl

namespace SM

variable {σ α β γ : Type}

theorem pure_bind (a : α) (f : α → SM β) : (pure a >>= f) = f a := rfl

theorem bind_assoc (x : SM α) (f : α → SM β) (g : β → SM γ) : (x >>= f) >>= g = x >>= fun a => f a >>= g := by
  refine (Script.bind_assoc x _ _).trans (congrArg (Script.bind x) (funext fun r => ?_))
  cases r <;> rfl

theorem ite_bind (c : Prop) [Decidable c] (x y : SM α) (f : α → SM β) :
    (if c then x else y) >>= f = if c then x >>= f else y >>= f := by
  split <;> rfl

/-- `cond && true`, as the translator writes the guard of a `for` -/
theorem andThen_pure_true (a : SM Bool) : SM.andThen a (pure true) = a := by
  show Script.bind a _ = a
  induction a with
  | ret r => cases r with
    | ok b => cases b <;> rfl
    | error e => rfl
  | get k ih => simp only [Script.bind, ih]
  | try_ b k ih => simp only [Script.bind, ih]
  | oob => rfl

variable (o : Oracle σ) (s : σ)

theorem exec_data_bind (f : List UInt64 → SM β) : SM.exec o (SM.data >>= f) s = SM.exec o (f (o.view s).rc.data) s := rfl
theorem exec_groups_bind (c : GI → γ) (f : List γ → SM β) :
    SM.exec o (SM.groups c >>= f) s = SM.exec o (f ((o.view s).rc.groups.map c)) s := rfl
theorem exec_shrinks_bind (f : Int64 → SM β) :
    SM.exec o (SM.shrinks >>= f) s = SM.exec o (f (Int64.ofNat (o.view s).shrinks)) s := rfl

/-- a step of the pure fragment that the model does not make (the source checks a bound a second time, reads `buf[i]` once more) -/
theorem exec_ofM_ok {x : Go.M α} {a : α} (h : x = .ok a) (f : α → SM β) : SM.exec o (SM.ofM x >>= f) s = SM.exec o (f a) s := by
  rw [h]; rfl

theorem exec_idx_ok {l : List γ} {i : Nat} {x : γ} (hi : i < 2 ^ 63) (h : l[i]? = some x) (f : γ → SM β) :
    SM.exec o (SM.ofM (Go.idx l (Int64.ofNat i)) >>= f) s = SM.exec o (f x) s :=
  exec_ofM_ok o s (idx_some hi h) f

theorem exec_ite_lt {i n : Nat} (hi : i < 2 ^ 63) (hn : n < 2 ^ 63) (X Y : SM α) :
    SM.exec o (if decide (Int64.ofNat i < Int64.ofNat n) then X else Y) s = if i < n then SM.exec o X s else SM.exec o Y s := by
  rw [i64_ofNat_lt hi hn, apply_ite (SM.exec o · s)]
  exact ite_congr decide_eq_true_eq (fun _ => rfl) fun _ => rfl

theorem exec_groups_lt {i : Nat} (hi : i < 2 ^ 63) (hl : (o.view s).rc.groups.length < 2 ^ 63) (c : GI → γ) (X Y : SM α) :
    SM.exec o (SM.groups c >>= fun v => if decide (Int64.ofNat i < glen v) then X else Y) s =
      if i < (o.view s).rc.groups.length then SM.exec o X s else SM.exec o Y s := by
  rw [exec_groups_bind, glen_eq, List.length_map, exec_ite_lt o s hi hl]

theorem exec_data_lt {i : Nat} (hi : i < 2 ^ 63) (hl : (o.view s).rc.data.length < 2 ^ 63) (X Y : SM α) :
    SM.exec o (SM.data >>= fun v => if decide (Int64.ofNat i < glen v) then X else Y) s =
      if i < (o.view s).rc.data.length then SM.exec o X s else SM.exec o Y s := by
  rw [exec_data_bind, glen_eq, exec_ite_lt o s hi hl]

end SM

theorem orOob_bind {α β γ : Type} (y : Option α) (f : α → Option β) (g : β → Script γ) :
    orOob (y >>= f) >>= g = orOob y >>= fun a => orOob (f a) >>= g := by
  cases y <;> rfl

theorem orOob_pure {α γ : Type} (a : α) (g : α → Script γ) : orOob (pure a) >>= g = g a := rfl

theorem Script.exec_getV_bind {σ β : Type} (o : Oracle σ) (s : σ) (f : View → Script β) :
    (getV >>= f).exec o s = (f (o.view s)).exec o s := rfl

section
variable {σ α β α' β' : Type} {R : α → β → Prop} {R' : α' → β' → Prop} {o : Oracle σ} {s : σ}

theorem Agree.bindS {x : SM α} {m : Script β} {f : α → SM α'} {g : β → Script β'}
    (h : Agree R (SM.exec o x s) (m.exec o s))
    (hk : ∀ a b s', R a b → Agree R' (SM.exec o (f a) s') ((g b).exec o s')) :
    Agree R' (SM.exec o (x >>= f) s) ((m >>= g).exec o s) := by
  rw [SM.exec_bind, Script.exec_bind]
  exact Agree.bind h hk

theorem Agree.map {R' : α' → β → Prop} {x : SM α} {r : Res σ β} (f : α → α') (h : Agree R (SM.exec o x s) r)
    (hr : ∀ a b, R a b → R' (f a) b) : Agree R' (SM.exec o (x >>= fun a => pure (f a)) s) r := by
  rw [SM.exec_bind]
  exact h.elim (motive := fun rt rm => Agree R' (rt.bindE fun a s' => SM.exec o (pure (f a)) s') rm)
    (fun s => Agree.fuel R' s _) (fun a b s r => Agree.done s (hr a b r)) (fun s => Agree.oob R' s) (fun s b => Agree.stop R' s b)

theorem Agree.ofM_bind {x : Go.M α} {y : Option α} {f : α → SM α'} {g : α → Script β'}
    (hx : x = Go.ofOpt y ∨ x = .error .fuel)
    (hk : ∀ a, y = some a → Agree R' (SM.exec o (f a) s) ((g a).exec o s)) :
    Agree R' (SM.exec o (SM.ofM x >>= f) s) ((orOob y >>= g).exec o s) := by
  rcases hx with rfl | rfl
  · cases y with
    | none => exact Agree.oob R' s
    | some a => exact hk a rfl
  · exact Agree.fuel R' s _

theorem Agree.group_bind {γ : Type} {i : Nat} (hi : i < 2 ^ 63) (c : GI → γ) {f : γ → SM α'} {g : GI → Script β'}
    (hk : ∀ x ∈ (o.view s).rc.groups, Agree R' (SM.exec o (f (c x)) s) ((g x).exec o s)) :
    Agree R' (SM.exec o (SM.groups c >>= fun v => SM.ofM (Go.idx v (Int64.ofNat i)) >>= f) s)
      ((orOob (o.view s).rc.groups[i]? >>= g).exec o s) := by
  rw [SM.exec_groups_bind, idx_ofNat _ hi, List.getElem?_map]
  cases h : (o.view s).rc.groups[i]? with
  | none => exact Agree.oob R' s
  | some x => exact hk x (List.mem_of_getElem? h)

theorem Agree.data_bind {x : List UInt64 → Go.M α} {y : Option α} {f : α → SM α'} {g : α → Script β'}
    (hx : x (o.view s).rc.data = Go.ofOpt y ∨ x (o.view s).rc.data = .error .fuel)
    (hk : ∀ a, y = some a → Agree R' (SM.exec o (f a) s) ((g a).exec o s)) :
    Agree R' (SM.exec o (SM.data >>= fun v => SM.ofM (x v) >>= f) s) ((orOob y >>= g).exec o s) := by
  rw [SM.exec_data_bind]
  exact Agree.ofM_bind hx hk

theorem Agree.accept_bind (buf : List UInt64) {f : Bool → SM α'} {g : Bool → Script β'}
    (hk : ∀ b s', o.accept s buf = some (b, s') → Agree R' (SM.exec o (f b) s') ((g b).exec o s')) :
    Agree R' (SM.exec o (SM.accept buf >>= f) s) ((tryBuf buf >>= g).exec o s) := by
  rw [SM.exec_bind, Script.exec_bind, SM.exec_accept, Script.exec_tryBuf]
  cases h : o.accept s buf with
  | none => exact Agree.stop R' s buf
  | some r => exact hk r.1 r.2 h

/- Three ways a test of the source meets the model's: `iteB` the same `Bool` on both sides, `iteP` the source's
   `decide p` against the model's `p`, `iteS` `p` on both sides with the translated side already run up to the test. -/

theorem Agree.iteB {c : Bool} {X Y : SM α} {A B : Script β}
    (h1 : c = true → Agree R (SM.exec o X s) (A.exec o s)) (h2 : c = false → Agree R (SM.exec o Y s) (B.exec o s)) :
    Agree R (SM.exec o (if c then X else Y) s) ((if c then A else B).exec o s) := by
  cases c
  · exact h2 rfl
  · exact h1 rfl

theorem Agree.iteP {p : Prop} [Decidable p] {X Y : SM α} {A B : Script β}
    (h1 : p → Agree R (SM.exec o X s) (A.exec o s)) (h2 : ¬ p → Agree R (SM.exec o Y s) (B.exec o s)) :
    Agree R (SM.exec o (if decide p then X else Y) s) ((if p then A else B).exec o s) := by
  by_cases h : p
  · rw [decide_eq_true h, if_pos rfl, if_pos h]; exact h1 h
  · rw [decide_eq_false h, if_neg Bool.false_ne_true, if_neg h]; exact h2 h

theorem Agree.iteS {p : Prop} [Decidable p] {l l' : Res σ (Except Panic α)} {A B : Script β}
    (h1 : p → Agree R l (A.exec o s)) (h2 : ¬ p → Agree R l' (B.exec o s)) :
    Agree R (if p then l else l') ((if p then A else B).exec o s) := by
  by_cases h : p
  · rw [if_pos h, if_pos h]; exact h1 h
  · rw [if_neg h, if_neg h]; exact h2 h

end
end Rapid
