/-
  RapidProofs.Shortlex — `compareData` is the strict shortlex order: it compares the keys
  (length, value as a numeral in base 2⁶⁴) lexicographically.  Transitivity and well-foundedness
  are those of the keys.
-/
import RapidModel.Engine
import RapidProofs.U64

namespace Rapid

theorem u64_lt_asymm {a b : UInt64} (h : a < b) : ¬ b < a := UInt64.lt_asymm h

/-- the base 2⁶⁴, kept opaque for the arithmetic -/
def B : Nat := 2 ^ 64

def numeral : List UInt64 → Nat
  | [] => 0
  | x :: xs => x.toNat * B ^ xs.length + numeral xs

theorem numeral_lt : ∀ xs : List UInt64, numeral xs < B ^ xs.length
  | [] => Nat.one_pos
  | x :: xs => by
    rw [numeral, List.length_cons, Nat.pow_succ']
    exact mul_add_lt x.toNat_lt (numeral_lt xs)

theorem numeral_cons_lt {x y : UInt64} {xs ys : List UInt64} (h : x < y) (hl : xs.length = ys.length) :
    numeral (x :: xs) < numeral (y :: ys) := by
  rw [numeral, numeral, ← hl]
  exact Nat.lt_of_lt_of_le (mul_add_lt (UInt64.lt_iff_toNat_lt.mp h) (numeral_lt xs)) (Nat.le_add_right _ _)

theorem cmpLex_spec : ∀ a b : List UInt64, a.length = b.length →
    (cmpLex a b = -1 ∧ numeral a < numeral b) ∨ (cmpLex a b = 0 ∧ a = b) ∨ (cmpLex a b = 1 ∧ numeral b < numeral a)
  | [], [], _ => .inr (.inl ⟨rfl, rfl⟩)
  | x :: xs, y :: ys, hl => by
    have hl' : xs.length = ys.length := by simpa using hl
    simp only [cmpLex]
    by_cases hxy : x < y
    · exact .inl ⟨if_pos hxy, numeral_cons_lt hxy hl'⟩
    · by_cases hyx : y < x
      · exact .inr (.inr ⟨by simp [hxy, hyx], numeral_cons_lt hyx hl'.symm⟩)
      · obtain rfl : x = y := UInt64.le_antisymm (UInt64.not_lt.mp hyx) (UInt64.not_lt.mp hxy)
        simp only [hxy, if_false, numeral, hl', List.cons.injEq, true_and]
        rcases cmpLex_spec xs ys hl' with h | h | h
        · exact .inl ⟨h.1, Nat.add_lt_add_left h.2 _⟩
        · exact .inr (.inl h)
        · exact .inr (.inr ⟨h.1, Nat.add_lt_add_left h.2 _⟩)
  | [], _ :: _, hl | _ :: _, [], hl => by simp at hl

def sle (a b : List UInt64) : Prop := compareData a b ≤ 0
def slt (a b : List UInt64) : Prop := compareData a b < 0

theorem compareData_spec (a b : List UInt64) :
    (compareData a b = -1 ∧ (a.length < b.length ∨ a.length = b.length ∧ numeral a < numeral b)) ∨
    (compareData a b = 0 ∧ a = b) ∨
    (compareData a b = 1 ∧ (b.length < a.length ∨ a.length = b.length ∧ numeral b < numeral a)) := by
  unfold compareData
  split
  · exact .inl ⟨rfl, .inl ‹_›⟩
  · split
    · exact .inr (.inr ⟨rfl, .inl ‹_›⟩)
    · have hl : a.length = b.length := Nat.le_antisymm (Nat.le_of_not_lt ‹_›) (Nat.le_of_not_lt ‹_›)
      rcases cmpLex_spec a b hl with ⟨h, h'⟩ | h | ⟨h, h'⟩
      · exact .inl ⟨h, .inr ⟨hl, h'⟩⟩
      · exact .inr (.inl h)
      · exact .inr (.inr ⟨h, .inr ⟨hl, h'⟩⟩)

theorem slt_iff {a b : List UInt64} : slt a b ↔ a.length < b.length ∨ (a.length = b.length ∧ numeral a < numeral b) := by
  unfold slt
  rcases compareData_spec a b with ⟨h, h'⟩ | ⟨h, rfl⟩ | ⟨h, h'⟩ <;> simp only [h]
  · simpa using h'
  · simp
  · omega

theorem sle_iff {a b : List UInt64} : sle a b ↔ a.length < b.length ∨ (a.length = b.length ∧ numeral a ≤ numeral b) := by
  unfold sle
  rcases compareData_spec a b with ⟨h, h'⟩ | ⟨h, rfl⟩ | ⟨h, h'⟩ <;> simp only [h]
  · simp; omega
  · simp
  · omega

theorem sle_refl (a : List UInt64) : sle a a := sle_iff.mpr (.inr ⟨rfl, Nat.le_refl _⟩)

theorem slt_irrefl (a : List UInt64) : ¬ slt a a := by
  rw [slt_iff]; omega

theorem slt_of_length_lt {a b : List UInt64} (h : a.length < b.length) : slt a b := slt_iff.mpr (.inl h)

theorem numeral_set_lt : ∀ {l : List UInt64} {k : Nat} (hk : k < l.length) {x : UInt64}, x < l[k] →
    numeral (l.set k x) < numeral l
  | _ :: _, 0, _, _, h => numeral_cons_lt h rfl
  | _ :: as, k+1, hk, x, h => by
    simp only [List.set_cons_succ, numeral, List.length_set]
    exact Nat.add_lt_add_left (numeral_set_lt (l := as) (Nat.lt_of_succ_lt_succ hk) h) _

theorem slt_set {l : List UInt64} {k : Nat} (hk : k < l.length) {x : UInt64} (h : x < l[k]) : slt (l.set k x) l :=
  slt_iff.mpr (.inr ⟨List.length_set .., numeral_set_lt hk h⟩)

theorem sle_trans {a b c : List UInt64} (h1 : sle a b) (h2 : sle b c) :
    sle a c ∧ (slt a b ∨ slt b c → slt a c) := by
  simp only [sle_iff, slt_iff] at *
  omega

theorem slt_of_slt_of_sle {a b c : List UInt64} (h1 : slt a b) (h2 : sle b c) : slt a c :=
  (sle_trans (Int.le_of_lt h1) h2).2 (Or.inl h1)

theorem slt_of_sle_of_slt {a b c : List UInt64} (h1 : sle a b) (h2 : slt b c) : slt a c :=
  (sle_trans h1 (Int.le_of_lt h2)).2 (Or.inr h2)

/-- `<ₛₗ` is well-founded: no infinite sequence of accepted shrinks -/
theorem slt_wf : WellFounded slt :=
  Subrelation.wf
    (fun h => (slt_iff.mp h).elim (Prod.Lex.left _ _) fun ⟨e, h⟩ => e ▸ Prod.Lex.right _ h)
    (InvImage.wf (fun l : List UInt64 => (l.length, numeral l)) (Prod.lex Nat.lt_wfRel Nat.lt_wfRel).wf)

end Rapid
