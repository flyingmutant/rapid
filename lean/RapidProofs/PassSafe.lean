/-
  RapidProofs.PassSafe — no pass of the shrinker indexes or slices out of range: every
  `s.rec.groups[i]`, `buf[i] = u`, `data[a:b]` and `without(…)` it evaluates is in range, for
  every recording the shrinker can hold (groups lie inside the data) and every sequence of
  answers `accept` can give.  (`Safe` fails for the code before the fix of D9: after an
  accepted candidate the recording may be shorter than the position a pass is working on.)
-/
import RapidModel.Passes

namespace Rapid

/-- finished groups lie inside the data -/
def RecWF (r : Rec) : Prop :=
  ∀ g ∈ r.groups, 0 ≤ g.end_ → g.begin ≤ g.end_.toNat ∧ g.end_.toNat ≤ r.data.length

/-- the script never reaches `oob` when started with recording `r`: `get` shows the current
    recording; a rejected candidate leaves it unchanged, an accepted one replaces it by some
    other well-formed recording -/
inductive Safe : {α : Type} → Rec → Script α → Prop
  | ret {α : Type} (r : Rec) (a : α) : Safe r (.ret a)
  | get {α : Type} (r : Rec) (k : View → Script α) : (∀ n, Safe r (k ⟨r, n⟩)) → Safe r (.get k)
  | try_ {α : Type} (r : Rec) (buf : List UInt64) (k : Bool → Script α) :
      Safe r (k false) → (∀ r', RecWF r' → Safe r' (k true)) → Safe r (.try_ buf k)

@[simp] theorem pure_eq {α : Type} (a : α) : (pure a : Script α) = .ret a := rfl
@[simp] theorem bind_eq {α β : Type} (x : Script α) (f : α → Script β) : x >>= f = x.bind f := rfl

def SafeAll {α : Type} (sc : Script α) : Prop := ∀ r, RecWF r → Safe r sc

/-! The closure lemmas are stated for `>>=`, `pure` and `if`, so that they apply to the `do` blocks of `RapidModel.Passes` as
they stand: the proof that a pass is safe is the term that follows the pass. -/

theorem Safe.bind {α β : Type} {r : Rec} {x : Script α} {f : α → Script β} (hr : RecWF r) (hx : Safe r x)
    (hf : ∀ a, SafeAll (f a)) : Safe r (x >>= f) := by
  induction hx with
  | ret r a => exact hf a r hr
  | get r k _ ih => exact Safe.get _ _ (fun n => ih n hr)
  | try_ r buf k _ _ ih1 ih2 => exact Safe.try_ _ _ _ (ih1 hr) (fun r' hr' => ih2 r' hr' hr')

theorem Safe.pure {α : Type} {r : Rec} (a : α) : Safe r (Pure.pure a : Script α) := Safe.ret _ _

theorem Safe.dite {α : Type} {r : Rec} {c : Prop} [Decidable c] {x y : Script α} (hx : c → Safe r x) (hy : ¬ c → Safe r y) :
    Safe r (if c then x else y) := by
  split
  · exact hx ‹_›
  · exact hy ‹_›

/-- what the continuation is shown is the view `⟨r, n⟩` as a term: a side goal for `omega` about `⟨r, n⟩.rc` needs
    `dsimp only` first, or the hypothesis is given its reduced type where it is bound -/
theorem Safe.getV {β : Type} {r : Rec} {f : View → Script β} (h : ∀ n, Safe r (f ⟨r, n⟩)) : Safe r (getV >>= f) :=
  Safe.get _ _ h

theorem Safe.orOob {α β : Type} {r : Rec} {o : Option α} {a : α} {f : α → Script β} (ho : o = some a)
    (h : Safe r (f a)) : Safe r (Rapid.orOob o >>= f) := by
  subst ho; exact h

/-- for a value known only to exist: taking the `∃` apart in front of the (large) `Safe` goal is dear to check -/
theorem Safe.orOobE {α β : Type} {r : Rec} {o : Option α} {f : α → Script β} (ho : ∃ a, o = some a)
    (h : ∀ a, Safe r (f a)) : Safe r (Rapid.orOob o >>= f) := by
  obtain ⟨a, rfl⟩ := ho; exact h a

/-- `for i < len(xs) { x := xs[i]; … }`: the loop condition puts the index in range -/
theorem Safe.index {α β : Type} {r : Rec} {l : List α} {i : Nat} {f : α → Script β} {b : β}
    (h : ∀ hi : i < l.length, Safe r (f l[i])) :
    Safe r (if i < l.length then Rapid.orOob l[i]? >>= f else Pure.pure b) :=
  .dite (fun hi => .orOob (List.getElem?_eq_getElem hi) (h hi)) fun _ => .pure _

theorem Safe.tryBuf {β : Type} {r : Rec} {buf : List UInt64} {f : Bool → Script β} (h1 : Safe r (f false))
    (h2 : SafeAll (f true)) : Safe r (Rapid.tryBuf buf >>= f) :=
  Safe.try_ _ _ _ h1 h2

theorem safe_tryBuf (r : Rec) (buf : List UInt64) : Safe r (tryBuf buf) :=
  Safe.try_ _ _ _ (Safe.ret _ _) (fun _ _ => Safe.ret _ _)

theorem SafeAll.pure {α : Type} (a : α) : SafeAll (Pure.pure a : Script α) := fun _ _ => Safe.ret _ _

theorem SafeAll.bind {α β : Type} {x : Script α} {f : α → Script β} (hx : SafeAll x) (hf : ∀ a, SafeAll (f a)) :
    SafeAll (x >>= f) := fun r hr => Safe.bind hr (hx r hr) hf

theorem SafeAll.ite {α : Type} {c : Prop} [Decidable c] {x y : Script α} (hx : SafeAll x) (hy : SafeAll y) :
    SafeAll (if c then x else y) := by
  split <;> assumption

theorem SafeAll.getV {β : Type} {f : View → Script β} (h : ∀ v, SafeAll (f v)) : SafeAll (getV >>= f) :=
  fun r hr => Safe.get _ _ fun n => h ⟨r, n⟩ r hr

theorem cut?_some {data : List UInt64} {b : Nat} {e : Int} (h0 : 0 ≤ e) (h1 : b ≤ e.toNat) (h2 : e.toNat ≤ data.length) :
    cut? data b e = some (data.take b ++ data.drop e.toNat) := by
  simp [cut?, h0, h1, h2]

theorem without?_singleton (data : List UInt64) (g : GI) : without? data [g] = cut? data g.begin g.end_ := by
  simp [without?, List.foldlM]

theorem without?_snoc (data : List UInt64) (gs : List GI) (h : GI) :
    without? data (gs ++ [h]) = (cut? data h.begin h.end_).bind (without? · gs) := by
  simp [without?]

/-- the groups `gs` can be cut out of every buffer that reaches `e`: the invariant of `spansInner`, with `e` the end of the last
    group collected -/
def CutTo (gs : List GI) (e : Int) : Prop :=
  ∀ d : List UInt64, e.toNat ≤ d.length → ∃ c, without? d gs = some c

/-- a group that begins at or after `e` is cut first, and the cut leaves a buffer that still reaches its beginning -/
theorem CutTo.snoc {gs : List GI} {e : Int} {h : GI} (hgs : CutTo gs e) (h0 : 0 ≤ h.end_) (h1 : h.begin ≤ h.end_.toNat)
    (hb : e ≤ (h.begin : Int)) : CutTo (gs ++ [h]) h.end_ := by
  intro d hd
  rw [without?_snoc, cut?_some h0 h1 hd]
  refine hgs _ (Nat.le_trans (Int.toNat_le.mpr hb) ?_)
  rw [List.length_append, List.length_take_of_le (Nat.le_trans h1 hd)]
  exact Nat.le_add_right _ _

theorem CutTo.single {g : GI} (h0 : 0 ≤ g.end_) (h1 : g.begin ≤ g.end_.toNat) : CutTo [g] g.end_ :=
  CutTo.snoc (gs := []) (e := 0) (fun d _ => ⟨d, rfl⟩) h0 h1 (Int.natCast_nonneg _)

theorem setIdx?_some {data : List UInt64} {i : Nat} (u : UInt64) (h : i < data.length) :
    setIdx? data i u = some (data.set i u) := by simp [setIdx?, h]

section minimize
variable {cond : UInt64 → Script Bool} (hc : ∀ x, SafeAll (cond x))
include hc

theorem safe_mAccept (best u : UInt64) : SafeAll (mAccept cond best u) :=
  .ite (.pure _) (.bind (hc u) fun _ => .ite (.pure _) (.pure _))

theorem safe_trySmallS (u : UInt64) : ∀ n i, SafeAll (trySmallS cond u n i)
  | 0, _ => .pure _
  | n+1, i => .ite (.bind (hc i) fun _ => .ite (.pure _) (safe_trySmallS u n _)) (.pure _)

theorem safe_rShiftS : ∀ n b, SafeAll (rShiftS cond n b)
  | 0, _ => .pure _
  | n+1, _ => .bind (safe_mAccept hc _ _) fun _ => .ite (safe_rShiftS n _) (.pure _)

theorem safe_unsetBitsS : ∀ n b, SafeAll (unsetBitsS cond n b)
  | 0, _ => .pure _
  | n+1, _ => .bind (safe_mAccept hc _ _) fun _ => safe_unsetBitsS n _

theorem safe_sortInnerS {i : Nat} {h : UInt64} : ∀ n j b, SafeAll (sortInnerS cond i h n j b)
  | 0, _, _ => .pure _
  | n+1, _, _ => .ite
      (.ite (.bind (safe_mAccept hc _ _) fun _ => .ite (.pure _) (safe_sortInnerS n _ _)) (safe_sortInnerS n _ _))
      (.pure _)

-- `let b' ← if … then … else pure b` is compiled with the rest of the block as a join point inside both branches
theorem safe_sortBitsS : ∀ n b, SafeAll (sortBitsS cond n b)
  | 0, _ => .pure _
  | n+1, _ => .ite (.bind (safe_sortInnerS hc _ _ _) fun _ => safe_sortBitsS n _) (.bind (.pure _) fun _ => safe_sortBitsS n _)

theorem safe_binLoopS : ∀ n i j b, SafeAll (binLoopS cond n i j b)
  | 0, _, _, _ => .pure _
  | n+1, _, _, _ => .ite (.bind (safe_mAccept hc _ _) fun _ => .ite (safe_binLoopS n _ _ _) (safe_binLoopS n _ _ _)) (.pure _)

theorem safe_binSearchS (b : UInt64) : SafeAll (binSearchS cond b) :=
  .bind (safe_mAccept hc _ _) fun _ => .ite (.pure _) (safe_binLoopS hc _ _ _ _)

theorem safe_minimizeS (u : UInt64) : SafeAll (minimizeS u cond) :=
  .ite (.pure _) (.bind (safe_trySmallS hc u 5 0) fun
    | some _ => .pure _
    | none => .ite (.pure _) (.bind (safe_rShiftS hc _ _) fun _ => .bind (safe_unsetBitsS hc _ _) fun _ =>
        .bind (safe_sortBitsS hc _ _) fun _ => safe_binSearchS hc _))

end minimize

theorem not_skip_end {a : Bool} {x : Int} (h : ¬ (!a || decide (x < 0)) = true) : 0 ≤ x := by
  simp at h; omega

theorem safe_removeGroups : ∀ f i, SafeAll (removeGroups f i)
  | 0, _ => .pure _
  | f+1, i => fun r hr => .getV fun _ => .index fun hi => .dite
      (fun _ => safe_removeGroups f (i + 1) r hr)
      (fun hg =>
        have hwf := hr _ (List.getElem_mem hi) (not_skip_end hg)
        .orOobE (CutTo.single (not_skip_end hg) hwf.1 _ hwf.2) fun _ =>
          .tryBuf (safe_removeGroups f (i + 1) r hr) (safe_removeGroups f i))

theorem safe_minimizeBlocks : ∀ f i, SafeAll (minimizeBlocks f i)
  | 0, _ => .pure _
  | f+1, i => fun r hr => .getV fun _ => .index fun _ => .bind hr
      (safe_minimizeS (fun x _ _ => .getV fun _ => .dite (fun _ => .pure _)
        (fun h2 => .orOob (setIdx?_some x (Nat.lt_of_not_ge h2)) (safe_tryBuf _ _))) _ r hr)
      fun _ => safe_minimizeBlocks f (i + 1)

theorem foldlM_set_some : ∀ (fill : List Nat) (d : List UInt64), (∀ j ∈ fill, j < d.length) →
    ∃ d', fill.foldlM (fun d j => setIdx? d j maxU64) d = some d'
  | [], d, _ => ⟨d, rfl⟩
  | j :: rest, d, h => by
    rw [List.foldlM_cons, setIdx?_some maxU64 (h j List.mem_cons_self)]
    exact foldlM_set_some rest _ fun k hk => by rw [List.length_set]; exact h k (List.mem_cons_of_mem _ hk)

theorem lowerAt?_some {data : List UInt64} {k : Nat} {fill : List Nat} {m : Nat} (hm : m ≤ data.length)
    (h : ∀ j ∈ k :: fill, j < m) : ∃ d, lowerAt? data k fill = some d := by
  have hk : k < data.length := Nat.lt_of_lt_of_le (h k List.mem_cons_self) hm
  simp only [lowerAt?, List.getElem?_eq_getElem hk, setIdx?_some _ hk, Option.bind_some]
  exact foldlM_set_some fill _ fun j hj => by
    rw [List.length_set]; exact Nat.lt_of_lt_of_le (h j (List.mem_cons_of_mem _ hj)) hm

/-- the words `lowerFloatHack` touches, in a group that begins at `b` and has seven words -/
theorem float_words (b : Nat) : ∀ j ∈ [b + 3, b + 4, b + 5, b + 6], j < b + 7 := by simp

theorem safe_lowerFloatHack : ∀ f i, SafeAll (lowerFloatHack f i)
  | 0, _ => .pure _
  | f+1, i => fun r hr => .getV fun _ => .index fun (hi : i < r.groups.length) => .dite
      (fun _ => safe_lowerFloatHack f (i + 1) r hr)
      (fun hg =>
        have hend : r.groups[i].end_ = (r.groups[i].begin : Int) + 7 := by simp at hg; exact hg.2
        have hlen : r.groups[i].begin + 7 ≤ r.data.length := by have := (hr _ (List.getElem_mem hi) (by omega)).2; omega
        have next := safe_lowerFloatHack f (i + 1)
        have hw := float_words r.groups[i].begin
        .orOobE (lowerAt?_some hlen hw) fun _ => .tryBuf
          (.getV fun _ => .orOobE (lowerAt?_some hlen fun j hj => hw j (.tail _ hj)) fun _ => .tryBuf
            (.getV fun _ => .orOobE (lowerAt?_some hlen fun j hj => hw j (.tail _ (.tail _ hj))) fun _ =>
              .tryBuf (next r hr) next)
            next)
          next)

theorem safe_rglInner {buf : List UInt64} {i : Nat} {r : Rec} (hr : RecWF r) (hl : buf.length = r.data.length) :
    ∀ f j, Safe r (rglInner buf i f j)
  | 0, _ => .pure _
  | f+1, j => .getV fun _ => .index fun hj => .dite
      (fun _ => safe_rglInner hr hl f (j + 1))
      (fun hg =>
        have h0 : 0 ≤ r.groups[j].end_ := by simp at hg; omega
        have hwf := hr _ (List.getElem_mem hj) h0
        .orOobE (CutTo.single h0 hwf.1 _ (hl ▸ hwf.2)) fun _ =>
          .tryBuf (safe_rglInner hr hl f (j + 1)) fun _ _ => .pure _)

theorem safe_removeGroupsAndLower : ∀ f i, SafeAll (removeGroupsAndLower f i)
  | 0, _ => .pure _
  | f+1, i => fun r hr => .getV fun _ => .index fun hi => .dite
      (fun _ => safe_removeGroupsAndLower f (i + 1) r hr)
      (fun _ => .orOob (setIdx?_some _ hi) <|
        .bind hr (safe_rglInner hr (List.length_set ..) _ _) fun
          | false => safe_removeGroupsAndLower f (i + 1)
          | true => safe_removeGroupsAndLower f i)

theorem slice?_some {data : List UInt64} {b e : Nat} (h1 : b ≤ e) (h2 : e ≤ data.length) :
    slice? data b e = some ((data.take e).drop b) := by simp [slice?, h1, h2]

theorem swapBuf?_some {data : List UInt64} {g h : GI} (hg1 : g.begin ≤ g.end_.toNat) (hg2 : g.end_.toNat ≤ data.length)
    (hh1 : h.begin ≤ h.end_.toNat) (hhg : h.end_.toNat ≤ g.begin) : ∃ buf, swapBuf? data g h = some buf := by
  unfold swapBuf?
  rw [slice?_some (Nat.zero_le _) (by omega), slice?_some hg1 hg2, slice?_some hhg (by omega), slice?_some hh1 (by omega),
    slice?_some hg2 (Nat.le_refl _)]
  exact ⟨_, rfl⟩

theorem safe_sortScan {g : GI} {r : Rec} (hr : RecWF r) (hg : g ∈ r.groups) (hg0 : 0 ≤ g.end_) :
    ∀ n, n ≤ r.groups.length → Safe r (sortScan g n)
  | 0, _ => .pure _
  | j+1, hj => .getV fun _ =>
      have rest := safe_sortScan hr hg hg0 j (Nat.le_of_lt hj)
      .orOob (List.getElem?_eq_getElem hj) <| .dite
        (fun _ => rest)
        (fun hc =>
          have hh : 0 ≤ r.groups[j].end_ ∧ r.groups[j].end_ ≤ (g.begin : Int) := by simp at hc; omega
          have hwg := hr g hg hg0
          have hwh := hr _ (List.getElem_mem hj) hh.1
          .orOobE (swapBuf?_some hwg.1 hwg.2 hwh.1 (Int.toNat_le.mpr hh.2)) fun _ => .tryBuf rest fun _ _ => .pure _)

theorem safe_sortFrom : ∀ f j, SafeAll (sortFrom f j)
  | 0, _ => .pure _
  | f+1, j => fun _ hr => .getV fun _ => .dite
      (fun hj => .orOob (List.getElem?_eq_getElem hj.2) <| .dite
        (fun _ => .pure _)
        (fun hg => .bind hr
          (safe_sortScan hr (List.getElem_mem hj.2) (not_skip_end hg) j (Nat.le_of_lt hj.2))
          fun
            | some j' => safe_sortFrom f j'
            | none => .pure _))
      (fun _ => .pure _)

theorem safe_sortGroups : ∀ f i, SafeAll (sortGroups f i)
  | 0, _ => .pure _
  | f+1, i => .getV fun _ => .ite (.bind (safe_sortFrom (f + 1) i) fun _ => safe_sortGroups f (i + 1)) (.pure _)

theorem safe_spansInner {r : Rec} (hr : RecWF r) : ∀ f (gs : List GI) (lastEnd : Int) j,
    CutTo gs lastEnd → Safe r (spansInner f gs lastEnd j)
  | 0, _, _, _, _ => .pure _
  | f+1, gs, lastEnd, j, hgs => .getV fun _ => .index fun hj => .dite
      (fun _ => safe_spansInner hr f gs lastEnd (j + 1) hgs)
      (fun hc =>
        have hh : 0 ≤ r.groups[j].end_ ∧ lastEnd ≤ (r.groups[j].begin : Int) := by simp at hc; omega
        have hwh := hr _ (List.getElem_mem hj) hh.1
        have hgs' := hgs.snoc hh.1 hwh.1 hh.2
        .orOobE (hgs' r.data hwh.2) fun _ => .tryBuf (safe_spansInner hr f _ _ (j + 1) hgs') fun _ _ => .pure _)

theorem safe_removeGroupSpans : ∀ f i, SafeAll (removeGroupSpans f i)
  | 0, _ => .pure _
  | f+1, i => fun r hr => .getV fun _ => .index fun hi => .dite
      (fun _ => safe_removeGroupSpans f (i + 1) r hr)
      (fun hg =>
        have h0 : 0 ≤ r.groups[i].end_ := not_skip_end hg
        have hwf := hr _ (List.getElem_mem hi) h0
        .bind hr (safe_spansInner hr _ [r.groups[i]] _ _ (.single h0 hwf.1)) fun
          | false => safe_removeGroupSpans f (i + 1)
          | true => safe_removeGroupSpans f i)

theorem safe_rounds (F : Nat) : ∀ f prev, SafeAll (rounds F f prev)
  | 0, _ => .pure _
  | f+1, _ => .getV fun _ => .ite
      (.bind (safe_removeGroups F 0) fun _ => .bind (safe_minimizeBlocks F 0) fun _ => .getV fun _ => .ite
        (.bind (safe_lowerFloatHack F 0) fun _ => .bind (safe_removeGroupsAndLower F 0) fun _ =>
          .bind (safe_sortGroups F 1) fun _ => .bind (safe_removeGroupSpans F 0) fun _ => safe_rounds F f _)
        (safe_rounds F f _))
      (.pure _)

/-- **no index or slice expression of the shrinker's passes is ever out of range** -/
theorem safe_shrinkScript (F : Nat) : SafeAll (shrinkScript F) := safe_rounds F F (-1)

end Rapid
