/-
  RapidProofs.Forest — a recording (`Rec`: data and group list) is the layout of a forest of words and groups.  One
  forest has three layouts: `fin` — what the recording calls write; `tfin` — what the token-based prune leaves;
  `lfin` — what the literal `prune()` leaves (it differs from `tfin` in the unfinished entries that the list scan of
  `removeGroup` drops: `strip`, `Mode`).  Facts about recordings are proved by induction over the forest.
-/
import RapidModel.Rec

namespace Rapid

/-- a recording as a forest: words, finished groups with their bodies, and the list entries of unfinished groups -/
inductive Forest where
  | nil
  | w (u : UInt64) (t : Forest)
  | grp (l : String) (s : Bool) (b : Forest) (d : Bool) (t : Forest)
  | opn (l : String) (s : Bool) (t : Forest)

/-- the element update of `Rec.removeGroup` -/
def shiftG (g h : GI) : GI :=
  { h with begin := if (h.begin : Int) ≥ g.end_ then h.begin - (g.end_.toNat - g.begin) else h.begin,
           end_ := if h.end_ ≥ g.end_ then h.end_ - ((g.end_.toNat - g.begin : Nat) : Int) else h.end_ }

theorem removeGroup_def (r : Rec) (i : Nat) :
    r.removeGroup i = r.groups[i]?.bind fun g =>
      if 0 ≤ g.end_ ∧ g.begin ≤ g.end_.toNat ∧ g.end_.toNat ≤ r.data.length then
        some ⟨r.data.take g.begin ++ r.data.drop g.end_.toNat,
          (r.groups.take i ++
            r.groups.drop (i + 1 + ((r.groups.drop (i + 1)).takeWhile fun h => h.end_ ≤ g.end_).length)).map (shiftG g)⟩
      else none := by
  unfold Rec.removeGroup cut?
  cases r.groups[i]? with
  | none => rfl
  | some g =>
    show (if g.end_ < 0 then none else _) = if _ then _ else _
    by_cases hc : 0 ≤ g.end_ ∧ g.begin ≤ g.end_.toNat ∧ g.end_.toNat ≤ r.data.length
    · rw [if_neg (Int.not_lt.mpr hc.1), if_pos hc, if_pos hc]
      rfl
    · rw [if_neg hc, if_neg hc]
      exact ite_self _

/- `shiftG` when `g` spans `[b, b+n)`, by where the other entry stands: `before` — it ends at or before `b` and stays;
   `around` — it encloses the cut and loses `n` at its end; `behind` — it begins at `p+n` behind the cut and moves left by `n`,
   except that the `-1` of an unfinished entry stays `-1` (the test `end >= g.end` leaves it alone). -/
section
variable {l : String} {s : Bool} {b n : Nat} {d : Bool}

theorem shiftG_before {h : GI} (h1 : h.begin ≤ b) (h2 : h.end_ ≤ (b : Int)) : shiftG ⟨l, s, b, ((b + n : Nat) : Int), d⟩ h = h := by
  cases h
  simp only [shiftG, Int.toNat_natCast, Nat.add_sub_cancel_left, GI.mk.injEq, true_and, and_true] at h1 h2 ⊢
  constructor <;> split <;> omega

theorem shiftG_around {h : GI} (h1 : h.begin ≤ b) (h2 : ((b + n : Nat) : Int) ≤ h.end_) :
    shiftG ⟨l, s, b, ((b + n : Nat) : Int), d⟩ h = { h with end_ := h.end_ - (n : Int) } := by
  cases h
  simp only [shiftG, Int.toNat_natCast, Nat.add_sub_cancel_left, GI.mk.injEq, true_and, and_true] at h1 h2 ⊢
  constructor <;> split <;> omega

theorem shiftG_behind {p : Nat} (hp : b ≤ p) (l' : String) (s' : Bool) (x : Int) (d' : Bool) (hx : x = -1 ∨ ((p + n : Nat) : Int) ≤ x) :
    shiftG ⟨l, s, b, ((b + n : Nat) : Int), d⟩ ⟨l', s', p + n, x, d'⟩ = ⟨l', s', p, if x = -1 then -1 else x - (n : Int), d'⟩ := by
  simp only [shiftG, Int.toNat_natCast, Nat.add_sub_cancel_left, GI.mk.injEq, true_and, and_true]
  constructor
  · rw [if_pos (by omega), Nat.add_sub_cancel]
  · rcases hx with rfl | hx
    · rw [if_neg (by omega), if_pos rfl]
    · rw [if_pos (by omega), if_neg (by omega)]

end

namespace Forest

def app : Forest → Forest → Forest
  | nil, g => g
  | w u t, g => w u (t.app g)
  | grp l s b d t, g => grp l s b d (t.app g)
  | opn l s t, g => opn l s (t.app g)

def nodes : Forest → Nat
  | nil => 0
  | w _ t => t.nodes + 1
  | grp _ _ b _ t => b.nodes + t.nodes + 1
  | opn _ _ t => t.nodes + 1

def words : Forest → List UInt64
  | nil => []
  | w u t => u :: t.words
  | grp _ _ b _ t => b.words ++ t.words
  | opn _ _ t => t.words

def size (f : Forest) : Nat := f.words.length

/-- which words survive `prune` -/
def kmask : Forest → List Bool
  | nil => []
  | w _ t => true :: t.kmask
  | grp _ _ b d t => (if d then List.replicate b.size false else b.kmask) ++ t.kmask
  | opn _ _ t => t.kmask

/-- the words that survive -/
def pwords : Forest → List UInt64
  | nil => []
  | w u t => u :: t.pwords
  | grp _ _ b d t => (if d then [] else b.pwords) ++ t.pwords
  | opn _ _ t => t.pwords

def psize (f : Forest) : Nat := f.pwords.length

/-- the group list of the recording, laid out from data position `o` -/
def fin : Forest → Nat → List GI
  | nil, _ => []
  | w _ t, o => t.fin (o + 1)
  | grp l s b d t, o => ⟨l, s, o, ((o + b.size : Nat) : Int), d⟩ :: (b.fin o ++ t.fin (o + b.size))
  | opn l s t, o => ⟨l, s, o, -1, false⟩ :: t.fin o

/-- the group list of the token-based prune (`pruneGoT`): discarded groups dropped with everything inside -/
def tfin : Forest → Nat → List GI
  | nil, _ => []
  | w _ t, o => t.tfin (o + 1)
  | grp l s b d t, o =>
      if d then t.tfin o else ⟨l, s, o, ((o + b.psize : Nat) : Int), false⟩ :: (b.tfin o ++ t.tfin (o + b.psize))
  | opn l s t, o => ⟨l, s, o, -1, false⟩ :: t.tfin o

/-- what the list scan of `removeGroup` is doing after a removal: `atB` — still at the end of the removed data (empty
    groups and unfinished entries are dropped), `aw` — a word has passed (only unfinished entries are dropped) -/
inductive Mode where
  | off | atB | aw
deriving DecidableEq

def Mode.word : Mode → Mode
  | .off => .off
  | _ => .aw

/-- the mode after the forest -/
def sw : Forest → Mode → Mode
  | nil, m => m
  | w _ t, m => t.sw m.word
  | grp _ _ b d t, m =>
      if m = .atB ∧ b.size = 0 then t.sw .atB else if d then t.sw .atB else t.sw (b.sw .off)
  | opn _ _ t, m => t.sw m

/-- the group list of the literal `prune` (`Rec.prune`) -/
def lfin : Forest → Nat → Mode → List GI
  | nil, _, _ => []
  | w _ t, o, m => t.lfin (o + 1) m.word
  | grp l s b d t, o, m =>
      if m = .atB ∧ b.size = 0 then t.lfin o .atB
      else if d then t.lfin o .atB
      else ⟨l, s, o, ((o + b.psize : Nat) : Int), false⟩ :: (b.lfin o .off ++ t.lfin (o + b.psize) (b.sw .off))
  | opn l s t, o, m => if m = .off then ⟨l, s, o, -1, false⟩ :: t.lfin o .off else t.lfin o m

/-- drop from the front of the group list what the scan of `removeGroup` drops -/
def strip : Forest → Bool → Forest
  | nil, _ => nil
  | w u t, _ => w u (t.strip false)
  | grp l s b d t, a => if a = true ∧ b.size = 0 then t.strip true else grp l s b d t
  | opn _ _ t, a => t.strip a

/-- the positions (counted in words) between top-level items -/
def Bnd : Forest → Nat → Prop
  | nil, k => k = 0
  | w _ t, k => k = 0 ∨ (1 ≤ k ∧ t.Bnd (k - 1))
  | grp _ _ b _ t, k => k = 0 ∨ (b.size ≤ k ∧ t.Bnd (k - b.size))
  | opn _ _ t, k => t.Bnd k

/-- a finished group that is not discarded holds at least one word (the assertion of `endGroup`) -/
def WFne : Forest → Prop
  | nil => True
  | w _ t => t.WFne
  | grp _ _ b d t => b.WFne ∧ t.WFne ∧ (d = false → 0 < b.size)
  | opn _ _ t => t.WFne

/-- a finished group that is not discarded keeps at least one word (the closing assertion of `prune`) -/
def KeptNE : Forest → Prop
  | nil => True
  | w _ t => t.KeptNE
  | grp _ _ b d t => b.KeptNE ∧ t.KeptNE ∧ (d = false → 0 < b.psize)
  | opn _ _ t => t.KeptNE

theorem app_nil (a : Forest) : a.app .nil = a := by
  induction a with
  | nil => rfl
  | w _ _ ih | grp _ _ _ _ _ _ ih | opn _ _ _ ih => simp only [app, ih]

theorem app_assoc (a b c : Forest) : (a.app b).app c = a.app (b.app c) := by
  induction a with
  | nil => rfl
  | w _ _ ih | grp _ _ _ _ _ _ ih | opn _ _ _ ih => simp only [app, ih]

@[simp] theorem words_app (a b : Forest) : (a.app b).words = a.words ++ b.words := by
  induction a with
  | nil => rfl
  | w _ _ ih | grp _ _ _ _ _ _ ih | opn _ _ _ ih => simp [app, words, ih]

@[simp] theorem size_app (a b : Forest) : (a.app b).size = a.size + b.size := by simp [size]

@[simp] theorem nodes_app (a b : Forest) : (a.app b).nodes = a.nodes + b.nodes := by
  induction a with
  | nil => exact (Nat.zero_add _).symm
  | w _ _ ih | grp _ _ _ _ _ _ ih | opn _ _ _ ih => simp only [app, nodes, ih]; omega

@[simp] theorem kmask_app (a b : Forest) : (a.app b).kmask = a.kmask ++ b.kmask := by
  induction a with
  | nil => rfl
  | w _ _ ih | grp _ _ _ _ _ _ ih | opn _ _ _ ih => simp [app, kmask, ih]

@[simp] theorem pwords_app (a b : Forest) : (a.app b).pwords = a.pwords ++ b.pwords := by
  induction a with
  | nil => rfl
  | w _ _ ih | grp _ _ _ _ _ _ ih | opn _ _ _ ih => simp [app, pwords, ih]

@[simp] theorem psize_app (a b : Forest) : (a.app b).psize = a.psize + b.psize := by simp [psize]

theorem pwords_sublist (f : Forest) : f.pwords.Sublist f.words := by
  induction f with
  | nil => exact .refl _
  | w u t ih => exact ih.cons_cons u
  | grp l s b d t ihb iht =>
    cases d
    · exact ihb.append iht
    · exact (List.nil_sublist _).append iht
  | opn l s t ih => exact ih

@[simp] theorem size_nil : (nil : Forest).size = 0 := rfl
@[simp] theorem size_w (u : UInt64) (t : Forest) : (w u t).size = t.size + 1 := rfl
@[simp] theorem size_grp (l : String) (s : Bool) (b : Forest) (d : Bool) (t : Forest) : (grp l s b d t).size = b.size + t.size :=
  List.length_append
@[simp] theorem size_opn (l : String) (s : Bool) (t : Forest) : (opn l s t).size = t.size := rfl
@[simp] theorem psize_nil : (nil : Forest).psize = 0 := rfl
@[simp] theorem psize_w (u : UInt64) (t : Forest) : (w u t).psize = t.psize + 1 := rfl
@[simp] theorem psize_grp (l : String) (s : Bool) (b : Forest) (d : Bool) (t : Forest) :
    (grp l s b d t).psize = (if d then 0 else b.psize) + t.psize := by
  cases d <;> simp [psize, pwords]
@[simp] theorem psize_opn (l : String) (s : Bool) (t : Forest) : (opn l s t).psize = t.psize := rfl

theorem fin_app (a b : Forest) : ∀ o, (a.app b).fin o = a.fin o ++ b.fin (o + a.size) := by
  induction a with
  | nil => intro o; simp [app, fin]
  | w _ _ ih | grp _ _ _ _ _ _ ih | opn _ _ _ ih => intro o; simp [app, fin, ih, Nat.add_assoc, Nat.add_comm 1]

theorem tfin_app (a b : Forest) : ∀ o, (a.app b).tfin o = a.tfin o ++ b.tfin (o + a.psize) := by
  induction a with
  | nil => intro o; simp [app, tfin]
  | w _ _ ih | opn _ _ _ ih => intro o; simp [app, tfin, ih, Nat.add_assoc, Nat.add_comm 1]
  | grp l s b' d t _ ih => intro o; cases d <;> simp [app, tfin, ih, Nat.add_assoc]

theorem sw_app (a b : Forest) : ∀ m, (a.app b).sw m = b.sw (a.sw m) := by
  induction a with
  | nil => intro m; rfl
  | w u t ih => intro m; exact ih m.word
  | grp l s b' d t _ ih => intro m; simp only [app, sw, ih, apply_ite b.sw]
  | opn l s t ih => intro m; exact ih m

theorem psize_of_size_zero (b : Forest) (h : b.size = 0) : b.psize = 0 :=
  Nat.le_zero.mp (h ▸ (pwords_sublist b).length_le)

theorem lfin_app (a b : Forest) : ∀ o m, (a.app b).lfin o m = a.lfin o m ++ b.lfin (o + a.psize) (a.sw m) := by
  induction a with
  | nil => intro o m; simp [app, lfin, sw]
  | w u t ih => intro o m; simp only [app, lfin, sw, ih, psize_w]; rw [Nat.add_assoc, Nat.add_comm 1]
  | grp l s b' d t _ ih =>
    intro o m
    simp only [app, lfin, sw, ih, psize_grp]
    by_cases h1 : m = .atB ∧ b'.size = 0
    · cases d <;> simp [h1, psize_of_size_zero b' h1.2]
    · cases d <;> simp [h1, Nat.add_assoc]
  | opn l s t ih =>
    intro o m
    simp only [app, lfin, sw, ih, psize_opn]
    by_cases h : m = .off <;> simp [h]

theorem words_of_size_zero (b : Forest) (h : b.size = 0) : b.words = [] := List.eq_nil_of_length_eq_zero h

theorem pwords_of_size_zero (b : Forest) (h : b.size = 0) : b.pwords = [] :=
  List.eq_nil_of_length_eq_zero (psize_of_size_zero b h)

theorem kmask_length (f : Forest) : f.kmask.length = f.size := by
  induction f with
  | nil => rfl
  | w _ _ ih | opn _ _ _ ih => simp [kmask, ih]
  | grp l s b d t ihb iht => cases d <;> simp [kmask, ihb, iht]

theorem kmask_of_size_zero (b : Forest) (h : b.size = 0) : b.kmask = [] :=
  List.eq_nil_of_length_eq_zero (by rw [kmask_length]; exact h)

theorem fin_mem (f : Forest) : ∀ p, ∀ e ∈ f.fin p, e.begin ≤ p + f.size ∧ -1 ≤ e.end_ ∧ e.end_ ≤ ((p + f.size : Nat) : Int) := by
  induction f with
  | nil => intro p e he; cases he
  | w u t ih =>
    intro p e he
    have := ih (p + 1) e he
    simp only [size_w]; omega
  | grp l s b d t ihb iht =>
    intro p e he
    simp only [fin, List.mem_cons, List.mem_append] at he
    simp only [size_grp]
    rcases he with rfl | he | he
    · simp only; omega
    · have := ihb p e he; omega
    · have := iht (p + b.size) e he; omega
  | opn l s t ih =>
    intro p e he
    simp only [fin, List.mem_cons] at he
    simp only [size_opn]
    rcases he with rfl | he
    · simp only; omega
    · exact ih p e he

theorem fin_shift {l : String} {s : Bool} {b n : Nat} {d : Bool} (f : Forest) :
    ∀ {p : Nat}, b ≤ p → (f.fin (p + n)).map (shiftG ⟨l, s, b, ((b + n : Nat) : Int), d⟩) = f.fin p := by
  induction f with
  | nil => intro p _; rfl
  | w u t ih => intro p hp; simp only [fin]; rw [Nat.add_right_comm]; exact ih (Nat.le_succ_of_le hp)
  | grp l' s' b' d' t ihb iht =>
    intro p hp
    simp only [fin, List.map_cons, List.map_append]
    rw [ihb hp, Nat.add_right_comm, iht (Nat.le_add_right_of_le hp), shiftG_behind hp _ _ _ _ (Or.inr (by omega)), if_neg (by omega)]
    congr 2; omega
  | opn l' s' t ih =>
    intro p hp
    simp only [fin, List.map_cons]
    rw [ih hp, shiftG_behind hp _ _ _ _ (Or.inl rfl), if_pos rfl]

theorem words_strip (f : Forest) : ∀ a, (f.strip a).words = f.words := by
  induction f with
  | nil => intro a; rfl
  | w u t ih => intro a; exact congrArg (u :: ·) (ih false)
  | grp l s b d t _ iht =>
    intro a
    simp only [strip]
    split
    · rename_i h; simp [words, iht, words_of_size_zero b h.2]
    · rfl
  | opn l s t ih => intro a; exact ih a

theorem size_strip (f : Forest) (a : Bool) : (f.strip a).size = f.size := by simp [size, words_strip]

/-- `strip` is the scan `for j < len(rec.groups) && rec.groups[j].end <= g.end` of `removeGroup`, run on the layout of what
    follows the removed group (`B` its end, `a`: no word has passed yet).  The test is meant for the groups inside `g`; it
    also catches the `-1` of unfinished entries, and empty groups standing at `B`. -/
theorem fin_dropWhile (B : Nat) (f : Forest) : ∀ (p : Nat) (a : Bool), B ≤ p → (a = true ↔ p = B) →
    (f.fin p).dropWhile (fun h => decide (h.end_ ≤ (B : Int))) = (f.strip a).fin p := by
  induction f with
  | nil => intro p a _ _; rfl
  | w u t ih => intro p a hB ha; exact ih (p + 1) false (by omega) (by simp; omega)
  | grp l s b d t _ iht =>
    intro p a hB ha
    rw [fin, strip]
    by_cases hc : a = true ∧ b.size = 0
    · -- an empty group at the end of the removed data goes, with the entries of its body
      have hp := ha.mp hc.1
      rw [if_pos hc, List.dropWhile_cons_of_pos (by simp only [decide_eq_true_eq]; omega),
        List.dropWhile_append_of_pos (fun e he => by have := (fin_mem b p e he).2.2; simp only [decide_eq_true_eq]; omega),
        hc.2, Nat.add_zero]
      exact iht p true hB (iff_of_true rfl hp)
    · have : p = B → b.size ≠ 0 := fun hp hz => hc ⟨ha.mpr hp, hz⟩
      rw [if_neg hc, fin, List.dropWhile_cons_of_neg (by simp only [decide_eq_true_eq]; omega)]
  | opn l s t ih =>
    intro p a hB ha
    rw [fin, strip, List.dropWhile_cons_of_pos (by simp only [decide_eq_true_eq]; omega)]
    exact ih p a hB ha

/-- what the scan of `removeGroup` leaves of a forest behind the removed data, by the mode the scan is in -/
def stripM (f : Forest) : Mode → Forest
  | .off => f
  | .atB => f.strip true
  | .aw => f.strip false

theorem stripM_w (u : UInt64) (t : Forest) (m : Mode) : (w u t).stripM m = w u (t.stripM m.word) := by cases m <;> rfl

theorem stripM_opn (l : String) (s : Bool) (t : Forest) (m : Mode) :
    (opn l s t).stripM m = if m = .off then opn l s t else t.stripM m := by
  cases m <;> rfl

theorem stripM_grp (l : String) (s : Bool) (b : Forest) (d : Bool) (t : Forest) (m : Mode) :
    (grp l s b d t).stripM m = if m = .atB ∧ b.size = 0 then t.stripM .atB else grp l s b d t := by
  cases m <;> simp [stripM, strip]

theorem wfne_app (a b : Forest) : (a.app b).WFne ↔ a.WFne ∧ b.WFne := by
  induction a with
  | nil => exact ⟨fun h => ⟨trivial, h⟩, fun h => h.2⟩
  | w _ _ ih | opn _ _ _ ih => exact ih
  | grp l s b' d t _ iht =>
    exact ⟨fun h => ⟨⟨h.1, (iht.mp h.2.1).1, h.2.2⟩, (iht.mp h.2.1).2⟩, fun h => ⟨h.1.1, iht.mpr ⟨h.1.2.1, h.2⟩, h.1.2.2⟩⟩

theorem keptNE_app (a b : Forest) (ha : a.KeptNE) (hb : b.KeptNE) : (a.app b).KeptNE := by
  induction a with
  | nil => exact hb
  | w _ _ ih | opn _ _ _ ih => exact ih ha
  | grp l s b' d t _ iht => exact ⟨ha.1, iht ha.2.1, ha.2.2⟩

theorem tfin_ne (f : Forest) (h : f.KeptNE) : ∀ o, (f.tfin o).all (fun g => (g.begin : Int) != g.end_) = true := by
  induction f with
  | nil => intro o; rfl
  | w u t ih => intro o; exact ih h _
  | grp l s b d t ihb iht =>
    intro o
    cases d with
    | true => exact iht h.2.1 _
    | false =>
      have := h.2.2 rfl
      simp only [tfin, Bool.false_eq_true, if_false, List.all_cons, List.all_append, ihb h.1, iht h.2.1, Bool.and_true, bne_iff_ne]
      omega
  | opn l s t ih =>
    intro o
    simp only [tfin, List.all_cons, ih h, Bool.and_true, bne_iff_ne]
    omega

theorem bnd_zero (f : Forest) : f.Bnd 0 := by
  induction f with
  | nil => rfl
  | w _ _ _ | grp _ _ _ _ _ _ _ => exact Or.inl rfl
  | opn l s t ih => exact ih

theorem bnd_app (a b : Forest) (k : Nat) (h : b.Bnd k) : (a.app b).Bnd (a.size + k) := by
  induction a with
  | nil => rw [size_nil, Nat.zero_add]; exact h
  | w u t ih => rw [size_w, Nat.add_right_comm]; exact Or.inr ⟨Nat.succ_pos _, ih⟩
  | grp l s b' d t _ iht =>
    rw [size_grp, Nat.add_assoc]
    exact Or.inr ⟨Nat.le_add_right _ _, by rw [Nat.add_sub_cancel_left]; exact iht⟩
  | opn l s t ih => exact ih

section
variable {l : String} {s : Bool} {b t : Forest} {d : Bool} {k : Nat}

theorem bnd_grp_app (h : (grp l s b d t).Bnd k) : (b.app t).Bnd k :=
  h.elim (· ▸ bnd_zero _) fun ⟨h1, hbt⟩ => Nat.add_sub_cancel' h1 ▸ bnd_app b t _ hbt

theorem bnd_grp_empty (hz : b.size = 0) (h : (grp l s b d t).Bnd k) : t.Bnd k :=
  h.elim (· ▸ bnd_zero t) fun h => by simpa [hz] using h.2

end

end Forest
end Rapid
