/-
  C17 — unusable fail files are ignored and never change the verdict.
  A fail file is unusable for `p` when `checkFailFile` yields nothing: it cannot be loaded (any
  error class of the loader), was written by another version, or describes a test case that now
  passes or is invalid.
-/
import RapidModel.Generated.Consts
import RapidProofs.TranslatedCheckEq
import RapidProofs.TranslatedPersistEq

namespace Rapid.C17

theorem firstFailFile_none (p : Prog) : ∀ (files : List FF) (i : Nat),
    (∀ f ∈ files, checkFailFile p f = none) → firstFailFile p files i = none := by
  intro files i h
  induction files generalizing i with
  | nil => rfl
  | cons f fs ih =>
    simp only [firstFailFile, h f List.mem_cons_self]
    exact ih _ fun g hg => h g (List.mem_cons_of_mem _ hg)

/-- any number of unusable files: `doCheck` is exactly `doCheck` without them — same random
    test cases (same seeds), same counters, same failure, same verdict -/
theorem unusable_files_ignored (p : Prog) (checks : Nat) (seed : UInt64) (files : List FF)
    (early : Nat → Bool) (cands : List (List UInt64)) (h : ∀ f ∈ files, checkFailFile p f = none) :
    doCheck p checks seed files early cands = doCheck p checks seed [] early cands := by
  simp [doCheck, firstFailFile_none p files 0 h, firstFailFile]

theorem unloadable_is_unusable (p : Prog) : checkFailFile p .unloadable = none := rfl

theorem other_version_is_unusable (p : Prog) (v : String) (s : UInt64) (buf : List UInt64) (h : v ≠ rapidVersion) :
    checkFailFile p (.loaded v s buf) = none := by
  simp [checkFailFile, h]

theorem passing_case_is_unusable (p : Prog) (v : String) (s : UInt64) (buf : List UInt64)
    (h : (checkOnce p (.buf buf) TS.fresh).err = none) : checkFailFile p (.loaded v s buf) = none := by
  simp only [checkFailFile]; split <;> simp [h]

theorem invalid_case_is_unusable (p : Prog) (v : String) (s : UInt64) (buf : List UInt64) (m : String)
    (h : (checkOnce p (.buf buf) TS.fresh).err = some (.invalid m)) : checkFailFile p (.loaded v s buf) = none := by
  simp only [checkFailFile]; split <;> simp [h, Err.isInvalid]

/-- the loader is total: every byte string is parsed or rejected with one of five error classes -/
theorem loader_total (bs : Bytes) :
    (∃ r, loadBytes bs = .ok r) ∨ loadBytes bs = .error .scan ∨ loadBytes bs = .error .noData ∨
    loadBytes bs = .error .badHeader ∨ loadBytes bs = .error .badSeed ∨ loadBytes bs = .error .badWord := by
  cases h : loadBytes bs with
  | ok r => exact Or.inl ⟨r, rfl⟩
  | error e => cases e <;> simp

example : loadBytes [103, 97, 114, 98, 97, 103, 101] = .error .badHeader := by rfl
example : loadBytes [] = .error .noData := by rfl

theorem version_source : Rapid.Generated.c_rapidVersion = rapidVersion := rfl

/-- **the source's `loadFailFile` reports an error exactly when the model's `loadBytes` does** — the files `unusable_files_ignored`
    is about are the files the source refuses: no data, a malformed header, a seed or any word that is not a 64-bit number (the
    error of every word counts, not only of the last one) -/
theorem source_loadFailFile_error (bs : Bytes) (fuel : Nat) (hl : (scanLines bs).length < 2 ^ 61) (hf : (scanLines bs).length + 1 < fuel)
    (hlines : ∀ l ∈ scanLines bs, (trimSpace l).length < 2 ^ 61) :
    ∃ v sd buf err, Rapid.Translated.loadFailFile_bytes (scanLines bs) fuel = .ok (v, sd, buf, err) ∧
      (err = true ↔ ∃ e, loadBytes bs = .error e) := by
  refine ⟨_, _, _, _, tr_loadFailFile bs fuel hl hf hlines, ?_⟩
  cases loadBytes bs <;> simp

/-- **the source's `checkFailFile` is the model's**: it hands back nothing (`nil, nil, nil`) exactly for the files the theorems
    above call unusable — not loadable, a version string that is not *equal* to `rapidVersion`, a test case that passes or is
    invalid now — and otherwise the words and the errors of two replays on fresh `*T`s -/
theorem source_checkFailFile (E : Go.CEnv) (name : String) (o : Option Once) :
    ∃ o', Go.CM.run E (Translated.checkFailFile name) o = (.ok (Go.ffOut (checkFailFile E.p (E.file name))), o') :=
  Go.tr_checkFailFile E name o

/-- **the source's `doCheck` with unusable fail files is the source's `doCheck` without any**: whatever `-rapid.failfile` names
    and the glob finds, if none of it is usable the eight results are those of a run that looks at no file at all (the model's
    `doCheck … []`): same random test cases, same failure found, same minimized result -/
theorem source_unusable_files_ignored (E : Go.CEnv) (checks : Nat) (hc : checks < 2 ^ 62) (seed : UInt64) (failfile : String)
    (globf : Bool) (fuel : Nat) (hl : (Go.failFileNames failfile globf E.found).length < 2 ^ 62)
    (hfuel : (Go.failFileNames failfile globf E.found).length < fuel)
    (h : ∀ n ∈ Go.failFileNames failfile globf E.found, checkFailFile E.p (E.file n) = none) :
    (Go.CM.run E (Translated.doCheck (Int64.ofNat checks) seed failfile globf fuel) none).1 =
      .ok (Go.dcOut [] (doCheck E.p checks seed [] E.early E.cands)) := by
  rw [Go.tr_doCheck E checks hc seed failfile globf fuel hl hfuel]
  have hu := unusable_files_ignored E.p checks seed ((Go.failFileNames failfile globf E.found).map E.file) E.early E.cands (List.forall_mem_map.mpr h)
  rw [hu]
  have hnone : (doCheck E.p checks seed [] E.early E.cands).fromFile = none := by
    simp only [doCheck, firstFailFile]
    split <;> (try split) <;> rfl
  simp [Go.dcOut, hnone]

/-- the hypotheses are satisfiable: a file of a neighbouring version next to an unloadable one, and a property that fails -/
example : ∀ n ∈ Go.failFileNames "a.fail" true ["b.fail"],
    checkFailFile (.draw 8 fun w => if w == 5 then Prog.fatal "five" 1 else .ret .nil)
      ((fun n => if n == "a.fail" then FF.loaded "v0.4.8-rc1" 1 [5] else FF.unloadable) n) = none := by
  intro n hn
  simp [Go.failFileNames] at hn
  rcases hn with rfl | rfl <;> simp [checkFailFile, rapidVersion]

end Rapid.C17
