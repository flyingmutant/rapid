/-
  RapidProofs.Runs — the shapes an outcome can have.  The twenty-odd branches of `Prog.run` put an outcome together in
  nine ways; `Runs src ts o` has one rule for each, and `Prog.runs` says that every run is built by them.  It serves the
  facts about `(src, ts, p.run src ts)` in which `p` occurs nowhere else (what a run records, consumes, leaves on the
  `*T`): each is an induction over `Runs` with one small fact per rule.  Facts that relate two runs of one program, or
  the runs of two programs, cannot be stated without `p`: `run_replay` goes along the branches of the first run like
  `Prog.runs`, `run_shift` and `run_bind` are inductions over `Prog`.
-/
import RapidProofs.Replay

namespace Rapid

/-- what the constructors with one continuation do to the `*T`, and the events they emit -/
inductive TStep : TS → List Ev → TS → Prop
  | errorf (ts : TS) (m : String) : TStep ts [.signal] { ts with failed := some m }
  | tick (ts : TS) : TStep ts [] { ts with draws := ts.draws + 1 }
  | cleanup (ts : TS) (c : CTree) : TStep ts [] { ts with cleanups := c :: ts.cleanups }
  | ctxOld {ts : TS} {id : Nat} : ts.ctx = some id → TStep ts [.ctx id true] ts
  | ctxNew {ts : TS} : ts.ctx = none →
      TStep ts [.ctx ts.ctxCount true] { ts with ctx := some ts.ctxCount, ctxCount := ts.ctxCount + 1 }
  | emit (ts : TS) (id : Nat) : TStep ts [.user id] ts

/-- the parent's `*T` after a Custom function whose run on the inner `*T` was `o` -/
def innerTS (ts : TS) (o : Out) : TS :=
  { ts with failed := match (cleanupPhase o.ts).ts.failed with | some m => some m | none => ts.failed }

def innerEvs (o : Out) : List Ev := Ev.innerBegin :: o.evs ++ (cleanupPhase o.ts).evs ++ [Ev.innerEnd]

inductive Runs : Src → TS → Out → Prop
  | leaf (r : Except Err Val) (src : Src) (ts : TS) : Runs src ts (.ofRes r src ts)
  | overrun {src : Src} {n : Nat} (ts : TS) : src.next n = none →
      Runs src ts { Out.ofRes (.error (.invalid "overrun")) src ts with overran := true }
  | draw {src src' : Src} {ts : TS} {n : Nat} {u : UInt64} {o : Out} : src.next n = some (u, src') →
      Runs src' ts o → Runs src ts (o.after [u] [u] [.w u] [])
  | step {src : Src} {ts ts' : TS} {evs : List Ev} {o : Out} : TStep ts evs ts' →
      Runs src ts' o → Runs src ts (o.after [] [] [] evs)
  /-- a group whose body raised, or used no data -/
  | groupAbort {src : Src} {ts : TS} {o : Out} (l : String) (s : Bool) (r : Except Err Val) : Runs src ts o →
      Runs src ts { o with res := r, toks := .opn l s :: o.toks ++ [.abort] }
  | groupDone {src : Src} {ts : TS} {o o2 : Out} (l : String) (s dv : Bool) : Runs src ts o →
      (dv = false → o.used ≠ []) → Runs o.src o.ts o2 →
      Runs src ts (o2.after o.used (if dv then [] else o.kept) (.opn l s :: o.toks ++ [.cls dv]) o.evs o.overran)
  /-- `catchInv`, when the body returned or raised invalid data -/
  | seq {src : Src} {ts : TS} {o o2 : Out} : Runs src ts o → Runs o.src o.ts o2 →
      Runs src ts (o2.after o.used o.kept o.toks o.evs o.overran)
  | innerStop {src : Src} {o : Out} (ts : TS) (r : Except Err Val) : Runs src .fresh o →
      Runs src ts { o with res := r, ts := innerTS ts o, evs := innerEvs o }
  | innerDone {src : Src} {ts : TS} {o o2 : Out} : Runs src .fresh o → Runs o.src (innerTS ts o) o2 →
      Runs src ts (o2.after o.used o.kept o.toks (innerEvs o) o.overran)

theorem Prog.runs (p : Prog) (src : Src) (ts : TS) : Runs src ts (p.run src ts) := by
  -- the numbering of the cases is given in Replay.lean
  fun_induction Prog.run p src ts
  case case1 | case2 | case12 => exact .leaf ..
  case case3 h _ => exact .overrun _ h
  case case4 h ih => exact .draw h ih
  case case5 ih | case6 ih => exact .groupAbort _ _ _ ih
  case case7 o a _ hc ihb ihk => exact .groupDone _ _ _ ihb (fun hd he => hc (by simp [hd, o, he])) ihk
  case case8 ihb ihk | case9 ihb ihk => exact .seq ihb ihk
  case case10 ih | case13 ih => exact ih
  case case11 ih => exact .step (.errorf ..) ih
  case case14 ih => exact .step (.tick _) ih
  case case15 ih => exact .step (.cleanup ..) ih
  case case16 h ih => exact .step (.ctxOld h) ih
  case case17 h ih => exact .step (.ctxNew h) ih
  case case18 ih | case19 ih => exact .innerStop _ _ ih
  case case20 ihb ihk => exact .innerDone ihb ihk
  case case21 ih => exact .step (.emit ..) ih

end Rapid
