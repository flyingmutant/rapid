/-
  RapidProofs.FindBug — the generation loop: counters, the blamed test case, the seed schedule.
-/
import RapidProofs.Isolation

namespace Rapid

/- The cases of `fun_induction findBugLoop`, in the order of the definition: 1 out of fuel, 2 early exit, 3 a valid test
   case (loop goes on), 4 an invalid one (loop goes on), 5 a failing one, 6 a budget is used up. -/

theorem findBugLoop_blame (p : Prog) (checks : Nat) (early : Nat → Bool)
    (fuel valid invalid : Nat) (seed : UInt64) (ts : TS) (seeds : List UInt64) (e : Err) (hc : Clean ts)
    (h : (findBugLoop p checks early fuel valid invalid seed ts seeds).err = some e) :
    e.isInvalid = false ∧
    (checkOnce p (.rng (Jsf.init (findBugLoop p checks early fuel valid invalid seed ts seeds).seed)) TS.fresh).err = some e := by
  fun_induction findBugLoop p checks early fuel valid invalid seed ts seeds
  case case1 | case2 | case6 => cases h
  case case3 ih | case4 ih => exact ih (checkOnce_clean_after ..) h
  case case5 herr hinv =>
    cases h
    exact ⟨by simpa using hinv, (checkOnce_clean p _ hc).1 ▸ herr⟩

theorem findBug_blame (p : Prog) (checks : Nat) (seed : UInt64) (early : Nat → Bool) (e : Err)
    (h : (findBug p checks seed early).err = some e) :
    e.isInvalid = false ∧
    (checkOnce p (.rng (Jsf.init (findBug p checks seed early).seed)) TS.fresh).err = some e :=
  findBugLoop_blame p checks early _ 0 0 seed TS.fresh [] e clean_fresh h

/-- `hf`: the fuel covers what is left of the two budgets; `hs`: a seed is logged per run, and a run counts as valid, counts as
    invalid, or is the failing one -/
theorem findBugLoop_counts (p : Prog) (checks : Nat) (early : Nat → Bool)
    (fuel valid invalid : Nat) (seed : UInt64) (ts : TS) (seeds : List UInt64)
    (hf : checks + checks * invalidChecksMult ≤ fuel + valid + invalid)
    (hv : valid ≤ checks) (hi : invalid ≤ checks * invalidChecksMult) (hs : seeds.length = valid + invalid) :
    let fb := findBugLoop p checks early fuel valid invalid seed ts seeds
    fb.valid ≤ checks ∧ fb.invalid ≤ checks * invalidChecksMult ∧
    (fb.err = none → fb.early = false → (fb.valid = checks ∨ fb.invalid = checks * invalidChecksMult)) ∧
    fb.seeds.length = fb.valid + fb.invalid + (if fb.err.isSome then 1 else 0) := by
  fun_induction findBugLoop p checks early fuel valid invalid seed ts seeds
  case case1 | case6 => exact ⟨hv, hi, fun _ _ => by dsimp only; omega, hs⟩
  case case2 => exact ⟨hv, hi, nofun, hs⟩
  case case5 => exact ⟨hv, hi, nofun, by rw [List.length_append, hs]; rfl⟩
  case case3 hcond iter hex seed o herr ih => exact ih (by omega) hcond.1 hi (by rw [List.length_append, hs, Nat.add_right_comm]; rfl)
  case case4 hcond iter hex seed o e herr hinv ih => exact ih (by omega) hv hcond.2 (by rw [List.length_append, hs]; rfl)

/-- triangular numbers: `tri k = 0 + 1 + … + (k-1)` -/
def tri : Nat → Nat
  | 0 => 0
  | k+1 => tri k + k

theorem tri_step (seed0 : UInt64) (k : Nat) :
    seed0 + UInt64.ofNat (tri k) + UInt64.ofNat k = seed0 + UInt64.ofNat (tri (k + 1)) := by
  simp only [tri, UInt64.ofNat_add, UInt64.add_assoc]

/-- the seeds of the first `n` test cases of a run started with `seed0` -/
def seedsUpTo (seed0 : UInt64) (n : Nat) : List UInt64 := (List.range n).map fun i => seed0 + UInt64.ofNat (tri (i + 1))

theorem seedsUpTo_succ (seed0 : UInt64) (n : Nat) :
    seedsUpTo seed0 n ++ [seed0 + UInt64.ofNat (tri n) + UInt64.ofNat n] = seedsUpTo seed0 (n + 1) := by
  rw [tri_step, seedsUpTo, seedsUpTo, List.range_succ, List.map_append]; rfl

/-- **seed schedule**: the `i`-th test case of a run started with `seed₀` is driven by
    `seed₀ + (0 + 1 + … + i)` (mod 2⁶⁴) -/
theorem findBugLoop_seeds (p : Prog) (checks : Nat) (early : Nat → Bool) (seed0 : UInt64)
    (fuel valid invalid : Nat) (seed : UInt64) (ts : TS) (seeds : List UInt64)
    (hseed : seed = seed0 + UInt64.ofNat (tri (valid + invalid))) (hs : seeds = seedsUpTo seed0 (valid + invalid)) :
    let fb := findBugLoop p checks early fuel valid invalid seed ts seeds
    fb.seeds = seedsUpTo seed0 fb.seeds.length ∧ (fb.err.isSome → fb.seeds.getLast? = some fb.seed) := by
  fun_induction findBugLoop p checks early fuel valid invalid seed ts seeds
  case case1 | case2 | case6 => exact ⟨by subst hs; simp [seedsUpTo], nofun⟩
  case case3 ih =>
    subst hseed hs
    exact ih (by rw [Nat.add_right_comm]; exact tri_step ..) (by rw [Nat.add_right_comm]; exact seedsUpTo_succ ..)
  case case4 ih =>
    subst hseed hs
    exact ih (tri_step ..) (seedsUpTo_succ ..)
  case case5 =>
    subst hseed hs
    exact ⟨by simpa [seedsUpTo] using seedsUpTo_succ .., by simp⟩

theorem findBug_seeds (p : Prog) (checks : Nat) (seed : UInt64) (early : Nat → Bool) :
    (∀ i (h : i < (findBug p checks seed early).seeds.length),
      (findBug p checks seed early).seeds[i] = seed + UInt64.ofNat (tri (i + 1))) ∧
    ((findBug p checks seed early).err.isSome →
      (findBug p checks seed early).seeds.getLast? = some (findBug p checks seed early).seed) := by
  unfold findBug
  have := findBugLoop_seeds p checks early seed (checks + checks * invalidChecksMult) 0 0 seed TS.fresh []
    (by simp [tri]) rfl
  refine ⟨fun i h => ?_, this.2⟩
  rw [List.getElem_of_eq this.1]; simp [seedsUpTo]

end Rapid
