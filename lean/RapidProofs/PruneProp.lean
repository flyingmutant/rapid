/-
  RapidProofs.PruneProp — from generators to property functions and to the engine:
  a property function that draws from (Custom-free) generators and otherwise uses the `*T`
  API is prune-stable; a prune-stable property whose failing runs end in a value or failure of
  the body satisfies the engine-level `PruneStable` used by the C01 theorems.  And the assertion at the end of `prune()`
  ("no group is empty") never fires for these programs: every finished, non-discarded group keeps at least one word of its
  own (`GK`, proved with prune stability in `RapidProofs.PruneGen`).  This discharges `PruneOK`, the remaining hypothesis of
  the refinement of the shrinker's passes, for every property function built from the `*T` API and generators that are
  Custom-free or have quiet Custom functions nested to any depth.
-/
import RapidProofs.PruneCustom
import RapidProofs.Shrink

namespace Rapid

/-- property functions: draws of generators, the `*T` API, any branching on drawn values -/
inductive PropProg (e : Env) : Prog → Prop
  | ret (v : Val) : PropProg e (.ret v)
  | throw (er : Err) : PropProg e (.throw er)
  | draw (g : Gen) (k : Val → Prog) : g.NoCustom → (∀ v, PropProg e (k v)) → PropProg e (g.draw e k)
  | errorf (m : String) (k : Prog) : PropProg e k → PropProg e (.errorf m k)
  | emit (id : Nat) (k : Prog) : PropProg e k → PropProg e (.emit id k)
  | cleanup (c : CTree) (k : Prog) : PropProg e k → PropProg e (.cleanup c k)
  | ctx (k : Prog) : PropProg e k → PropProg e (.ctx k)
  | failOnError (site : Nat) (k : Prog) : PropProg e k → PropProg e (.failOnError site k)

/-- constructor by constructor: `GenLvl e 0 g` is `g.NoCustom` by definition -/
theorem PropProg.toC {e : Env} {p : Prog} (h : PropProg e p) : PropProgC e 0 p := by
  induction h <;> constructor <;> assumption

/-- **L-PS for property functions** -/
theorem propProg_ps (e : Env) (hrt : RTPos e) {p : Prog} (h : PropProg e p) : PS p := propProgC_ps e hrt h.toC

/-- every failing test case ends with the body producing a value or a failure (not with the body
    skipping while a non-fatal failure is pending, and not out of model fuel) -/
def BodyGood (p : Prog) : Prop :=
  ∀ src e, (checkOnce p src TS.fresh).err = some e → e.isInvalid = false → Good (p.run src TS.fresh)

theorem pruneStable_of_ps {p : Prog} (hps : PS p) (hbg : BodyGood p) : PruneStable p := by
  intro src ⟨e, he, hinv⟩
  have hgood := hbg src e he hinv
  have r := hps src TS.fresh [] hgood (fun _ => rfl)
  simp only [List.append_nil] at r
  simp only [checkOnce_def, bodyOf, fresh_ctxCount]
  rw [r.res, r.ts]

/-- a property that leaves the `*T` as it found it on every run (it may panic or skip; `T.Fatal*` sets `failed` first and
    is not of this kind) and whose loops do not run out of model fuel -/
theorem bodyGood_of_pure {p : Prog} (hp : TsPure p) (hfuel : ∀ src, (p.run src TS.fresh).res ≠ .error .fuel) : BodyGood p := by
  intro src e he hinv e' he'
  rw [checkOnce_err, fresh_ctxCount, hp src TS.fresh, he'] at he
  -- the cleanup phase of the fresh `*T` raises nothing: the error of the test case is the body's
  cases he
  exact ⟨hinv, fun h => hfuel src (by rw [he', h])⟩

theorem pruneOK_of_gk {p : Prog} (hp : GK p) : PruneOK p := by
  intro buf
  simp only [checkOnce]
  exact pruned_noEmpty hp _ _

theorem pruneOK_of_propProgC (e : Env) (hrt : RTPos e) {d : Nat} {p : Prog} (h : PropProgC e d p) : PruneOK p :=
  pruneOK_of_gk (propProgC_ok e hrt h).2

theorem propProg_gk (e : Env) (hrt : RTPos e) {p : Prog} (h : PropProg e p) : GK p := (propProgC_ok e hrt h.toC).2

theorem pruneOK_of_propProg (e : Env) (hrt : RTPos e) {p : Prog} (h : PropProg e p) : PruneOK p :=
  pruneOK_of_propProgC e hrt h.toC

end Rapid
