/-
  C16 — saving a fail file is atomic with respect to process crashes.
  A crash point is a position in the list of file-system operations issued by `saveFailFile`
  (mkdir, create-exclusive of a fresh temporary name, each write, close, rename, unlink); the
  order of these calls is re-read from the source on every run (Generated/CallOrders.lean) and
  compared with the real system calls (strace) by the correspondence check.
-/
import RapidModel.Generated.CallOrders
import RapidModel.Generated.Consts
import RapidProofs.FsAtomic

namespace Rapid.C16

/-- killed after ANY prefix of the operations: every path other than the temporary file is
    untouched, or it is the final name and holds the complete content -/
theorem prefix_safe (fs0 : Fs) (dir tmp final : String) (chunks : List Bytes)
    (hfresh : fs0.get tmp = none) (hne : final ≠ tmp) (pre post : List FsOp)
    (h : saveOps dir tmp final chunks = pre ++ post) (q : String) (hq : q ≠ tmp) :
    SafeAt fs0 (applyOps fs0 pre) final chunks.flatten q :=
  save_prefix_safe fs0 dir tmp final chunks hfresh hne pre post h q hq

/-- a name whose last character differs from the last character of the suffix does not match `<pre>*<suf>`.  Hence
    `filepath.Glob(failFilePattern(..))` (`<name>-*.fail`) never picks up the temporary file: `os.CreateTemp` puts a decimal
    number in place of the final `*` of `.rapid-failfile-tmp-*` (`tmp_pattern_source`), so its name ends in a digit -/
theorem temporary_name_not_matched (pre suf name : List Nat) (hs : suf ≠ [])
    (hlast : name.getLast? ≠ suf.getLast?) : starMatch pre suf name = false :=
  tmp_not_matched pre suf name hs hlast

example : (saveOps "d" "d/.tmp1" "d/x.fail" [[1], [2, 3]]).length = 7 := by decide

/-- the file-system calls of `saveFailFile` in source order: MkdirAll, CreateTemp, (deferred Remove,
    Close), the writes, Close, Rename — nothing touches the final name before the rename -/
theorem save_order_source :
    Rapid.Generated.order_saveFailFile = ["os.MkdirAll", "os.CreateTemp", "defer os.Remove", "defer f.Name",
      "defer f.Close", "f.WriteString", "f.WriteString", "f.Close", "os.Rename", "f.Name"] := rfl

theorem tmp_pattern_source : Rapid.Generated.c_failfileTmpPattern = ".rapid-failfile-tmp-*" := rfl

end Rapid.C16
