/-
  RapidProofs.PassFix — what it means that the shrinker stopped by itself.  A pass that ends
  without an accepted candidate asked `accept` about a definite list of candidates and every
  one of them was rejected.  For `minimizeBlocks` that list contains, for every block, the
  block lowered by one; for `removeGroups`, the data without each standalone group.  So when a
  round makes no progress, no block can be lowered by one and no collection element dropped
  without losing the failure — for monotone (threshold) conditions that is the exact boundary.
-/
import RapidProofs.PassRefine
import RapidProofs.MinimizeExact

namespace Rapid

/-- run a script against a shrinker that rejects everything and never changes: the result
    (`none`: the script hit `oob`) and the candidates it tried, in order -/
def Script.runF {α : Type} (v : View) : Script α → Option α × List (List UInt64)
  | .ret a => (some a, [])
  | .get k => (k v).runF v
  | .try_ buf k => let r := (k false).runF v; (r.1, buf :: r.2)
  | .oob => (none, [])

theorem runF_bind {α β : Type} (v : View) (x : Script α) (f : α → Script β) :
    (x.bind f).runF v = ((x.runF v).1.bind fun a => ((f a).runF v).1,
      (x.runF v).2 ++ (x.runF v).1.elim [] fun a => ((f a).runF v).2) := by
  induction x with
  | ret a => rfl
  | get k ih => exact ih v
  | try_ buf k ih => exact congrArg (fun r => (r.1, buf :: r.2)) (ih false)
  | oob => rfl

theorem Script.run_rel (p : Prog) (R : SS → SS → Prop) (refl : ∀ s, R s s) (trans : ∀ {a b c}, R a b → R b c → R a c)
    (step : ∀ {s buf b s'}, s.accept p buf = .ok (b, s') → R s s') {α : Type} :
    ∀ {sc : Script α} {s s' : SS} {a : α}, sc.run p s = .ok (a, s') → R s s' := by
  intro sc
  induction sc with
  | ret a => intro s s' a' h; cases h; exact refl s
  | get k ih => intro s s' a h; exact ih _ h
  | oob => intro s s' a h; cases h
  | try_ buf k ih =>
    intro s s' a h
    simp only [Script.run] at h
    cases ha : s.accept p buf with
    | error e => simp [ha] at h
    | ok r => rw [ha] at h; exact trans (step ha) (ih r.1 h)

theorem accept_shrinks {p : Prog} {s s' : SS} {buf : List UInt64} {b : Bool} (h : s.accept p buf = .ok (b, s')) :
    s.shrinks ≤ s'.shrinks ∧ (b = false → s'.shrinks = s.shrinks ∧ s'.rc = s.rc ∧ s'.err = s.err) ∧
      (b = true → s.shrinks < s'.shrinks) := by
  cases b
  · rcases SS.accept_false h with ⟨rfl, _⟩ | ⟨rfl, _⟩ <;> simp
  · obtain ⟨rfl, _⟩ := SS.accept_true h; simp

theorem run_shrinks_mono {p : Prog} {α : Type} {sc : Script α} {s s' : SS} {a : α} (h : sc.run p s = .ok (a, s')) :
    s.shrinks ≤ s'.shrinks :=
  Script.run_rel p (fun s s' => s.shrinks ≤ s'.shrinks) (fun _ => Nat.le_refl _) Nat.le_trans (fun h => (accept_shrinks h).1) h

/-- the cache only holds candidates that fail differently (or not at all) -/
def CacheOK (p : Prog) (s : SS) : Prop :=
  ∀ buf ∈ s.cache, tbKey (checkOnce p (.buf buf) TS.fresh).err ≠ tbKey s.err

/-- every candidate of the list was tried on a state with the recording and error of `s` and
    was rejected there -/
def AllRejected (p : Prog) (s : SS) (tried : List (List UInt64)) : Prop :=
  ∀ buf ∈ tried, ∃ s0 s1 : SS, s0.rc = s.rc ∧ s0.err = s.err ∧ (CacheOK p s → CacheOK p s0) ∧ s0.accept p buf = .ok (false, s1)

theorem accept_cacheOK {p : Prog} {s s' : SS} {buf : List UInt64} {b : Bool} (h : s.accept p buf = .ok (b, s'))
    (hc : CacheOK p s) : CacheOK p s' := by
  cases b
  · rcases SS.accept_false h with ⟨rfl, _⟩ | ⟨rfl, htb⟩
    · exact hc
    · exact List.forall_mem_cons.mpr ⟨htb, hc⟩
  · obtain ⟨rfl, _, htb⟩ := SS.accept_true h
    exact fun c hm h' => hc c hm (h'.trans htb)

theorem AllRejected.cons {p : Prog} {s s1 : SS} {buf : List UInt64} {tried : List (List UInt64)}
    (ha : s.accept p buf = .ok (false, s1)) (h : AllRejected p s1 tried) : AllRejected p s (buf :: tried) := by
  obtain ⟨_, h1, h2⟩ := (accept_shrinks ha).2.1 rfl
  intro b hb
  rcases List.mem_cons.mp hb with rfl | hb
  · exact ⟨s, s1, rfl, rfl, id, ha⟩
  · obtain ⟨t0, t1, e1, e2, e3, e4⟩ := h b hb
    exact ⟨t0, t1, e1.trans h1, e2.trans h2, fun hx => e3 (accept_cacheOK ha hx), e4⟩

/-- **a run that accepted nothing is the all-false run**: same result, recording and error
    unchanged, and every candidate of the all-false run was put to `accept` and rejected -/
theorem run_noprogress (p : Prog) {α : Type} : ∀ (sc : Script α) (s s' : SS) (a : α),
    sc.run p s = .ok (a, s') → s'.shrinks = s.shrinks →
    (sc.runF ⟨s.rc, s.shrinks⟩).1 = some a ∧ s'.rc = s.rc ∧ s'.err = s.err ∧ (CacheOK p s → CacheOK p s') ∧
    AllRejected p s (sc.runF ⟨s.rc, s.shrinks⟩).2 := by
  intro sc
  induction sc with
  | ret a => intro s s' a' h _; cases h; exact ⟨rfl, rfl, rfl, id, nofun⟩
  | get k ih => intro s s' a h hn; exact ih _ s s' a h hn
  | oob => intro s s' a h; cases h
  | try_ buf k ih =>
    intro s s' a h hn
    simp only [Script.run] at h
    cases ha : s.accept p buf with
    | error e => simp [ha] at h
    | ok r =>
      obtain ⟨b, s1⟩ := r
      simp only [ha] at h
      have h1 := accept_shrinks ha
      have hm := run_shrinks_mono h
      cases b
      · obtain ⟨e1, e2, e3⟩ := h1.2.1 rfl
        obtain ⟨r1, r2, r3, r4, r5⟩ := ih false s1 s' a h (hn.trans e1.symm)
        rw [e2, e1] at r1 r5
        exact ⟨r1, r2.trans e2, r3.trans e3, fun hx => r4 (accept_cacheOK ha hx), .cons ha r5⟩
      · have := h1.2.2 rfl; omega

/-- a candidate reproduces the failure: same traceback as the current failure -/
def Reproduces (p : Prog) (s : SS) (buf : List UInt64) : Prop :=
  tbKey (checkOnce p (.buf buf) TS.fresh).err = tbKey s.err

theorem AllRejected.not_reproduces {p : Prog} {s : SS} {tried : List (List UInt64)} (h : AllRejected p s tried)
    (hc : CacheOK p s) {buf : List UInt64} (hb : buf ∈ tried) (hsm : slt buf s.rc.data) : ¬ Reproduces p s buf := by
  obtain ⟨s0, s1, hrc, herr, hc0, ha⟩ := h buf hb
  intro hrep
  rcases SS.accept_false ha with ⟨_, hcmp | hin⟩ | ⟨_, htb⟩
  · rw [hrc] at hcmp; simp only [slt] at hsm; omega
  · exact hc0 hc buf (by simpa using hin) (herr ▸ hrep)
  · exact htb (herr ▸ hrep)

@[simp] theorem runF_getV_bind {β : Type} (v : View) (f : View → Script β) : (getV.bind f).runF v = (f v).runF v := rfl
@[simp] theorem runF_tryBuf_bind {β : Type} (v : View) (buf : List UInt64) (f : Bool → Script β) :
    ((tryBuf buf).bind f).runF v = (((f false).runF v).1, buf :: ((f false).runF v).2) := rfl
@[simp] theorem runF_orOob_some {α β : Type} (v : View) (a : α) (f : α → Script β) :
    ((orOob (some a)).bind f).runF v = (f a).runF v := rfl
@[simp] theorem runF_orOob_none {α β : Type} (v : View) (f : α → Script β) :
    ((orOob (none : Option α)).bind f).runF v = (none, []) := rfl
@[simp] theorem runF_ret {α : Type} (v : View) (a : α) : (Script.ret a).runF v = (some a, []) := rfl

theorem runF_bind_none {α β : Type} (v : View) (x : Script α) (f : α → Script β) (h : (x.runF v).1 = none) :
    ((x.bind f).runF v).1 = none := by
  rw [runF_bind, h]; rfl

theorem runF_fst_bind {α β : Type} {v : View} {x : Script α} {f : α → Script β} {a : α} {r : Option β}
    (hx : (x.runF v).1 = some a) (hf : ((f a).runF v).1 = r) : ((x >>= f).runF v).1 = r := by
  rw [bind_eq, runF_bind, hx]; exact hf

theorem runF_fst_ite {α : Type} {v : View} {c : Prop} [Decidable c] {x y : Script α} {r : Option α}
    (hx : (x.runF v).1 = r) (hy : (y.runF v).1 = r) : ((if c then x else y).runF v).1 = r := by
  split <;> assumption

theorem runF_snd_bind_left {α β : Type} {v : View} (x : Script α) (f : α → Script β) :
    (x.runF v).2 ⊆ ((x >>= f).runF v).2 := by
  rw [bind_eq, runF_bind]; exact List.subset_append_left _ _

theorem runF_snd_bind_right {α β : Type} {v : View} {x : Script α} {f : α → Script β} {a : α}
    (hx : (x.runF v).1 = some a) : ((f a).runF v).2 ⊆ ((x >>= f).runF v).2 := by
  rw [bind_eq, runF_bind, hx]; exact List.subset_append_right _ _

theorem removeGroups_tries (v : View) {j : Nat} (hj : j < v.rc.groups.length) (hst : v.rc.groups[j].standalone = true)
    (hfin : 0 ≤ v.rc.groups[j].end_) : ∀ (f i : Nat), i ≤ j → j < i + f → ((removeGroups f i).runF v).1 = some () →
      ∃ buf, without? v.rc.data [v.rc.groups[j]] = some buf ∧ buf ∈ ((removeGroups f i).runF v).2 := by
  intro f
  induction f with
  | zero => exact fun _ hij hf => absurd hij (Nat.not_le.mpr hf)
  | succ f ih =>
    intro i hij hf
    have hi : i < v.rc.groups.length := Nat.lt_of_le_of_lt hij hj
    have next := fun hne : i ≠ j => ih (i + 1) (Nat.lt_of_le_of_ne hij hne) (Nat.succ_add i f ▸ hf)
    rw [removeGroups]
    simp only [bind_eq, pure_eq, runF_getV_bind, if_pos hi, List.getElem?_eq_getElem hi, runF_orOob_some]
    by_cases hskip : (!v.rc.groups[i].standalone || decide (v.rc.groups[i].end_ < 0)) = true
    · rw [if_pos hskip]
      refine next fun h => ?_
      subst h
      simp [hst] at hskip; omega
    · rw [if_neg hskip]
      cases hw : without? v.rc.data [v.rc.groups[i]] with
      | none => exact nofun
      | some buf =>
        simp only [runF_orOob_some, runF_tryBuf_bind, Bool.false_eq_true, if_false]
        intro hres
        by_cases hij' : i = j
        · subst hij'
          exact ⟨buf, hw, List.mem_cons_self⟩
        · obtain ⟨b, hb1, hb2⟩ := next hij' hres
          exact ⟨b, hb1, List.mem_cons_of_mem _ hb2⟩

section minimizeF
variable {v : View} {cond : UInt64 → Script Bool} (hcF : ∀ x, ((cond x).runF v).1 = some false)
include hcF

theorem mAccept_runF (best u : UInt64) : ((mAccept cond best u).runF v).1 = some (best, false) :=
  runF_fst_ite rfl (runF_fst_bind (hcF u) rfl)

theorem trySmallS_runF (u : UInt64) : ∀ n i, ((trySmallS cond u n i).runF v).1 = some none
  | 0, _ => rfl
  | n+1, i => runF_fst_ite (runF_fst_bind (hcF i) (trySmallS_runF u n (i + 1))) rfl

theorem rShiftS_runF : ∀ n b, ((rShiftS cond n b).runF v).1 = some b
  | 0, _ => rfl
  | _+1, b => runF_fst_bind (mAccept_runF hcF b _) rfl

theorem unsetBitsS_runF : ∀ n b, ((unsetBitsS cond n b).runF v).1 = some b
  | 0, _ => rfl
  | n+1, b => runF_fst_bind (mAccept_runF hcF b _) (unsetBitsS_runF n b)

theorem sortInnerS_runF {i : Nat} {h : UInt64} : ∀ n j b, ((sortInnerS cond i h n j b).runF v).1 = some b
  | 0, _, _ => rfl
  | n+1, j, b => runF_fst_ite
      (runF_fst_ite (runF_fst_bind (mAccept_runF hcF b _) (sortInnerS_runF n (j + 1) b)) (sortInnerS_runF n (j + 1) b))
      rfl

theorem sortBitsS_runF : ∀ n b, ((sortBitsS cond n b).runF v).1 = some b
  | 0, _ => rfl
  | n+1, b => runF_fst_ite (runF_fst_bind (sortInnerS_runF hcF _ _ _) (sortBitsS_runF n b))
      (runF_fst_bind rfl (sortBitsS_runF n b))

variable (v) in
theorem binLoopS_runF : ∀ n i j b, ((binLoopS cond n i j b).runF v).1 = some b
  | 0, _, _, _ => rfl
  | n+1, _, _, b => runF_fst_ite (runF_fst_bind (mAccept_runF hcF b _) (binLoopS_runF n _ _ b)) rfl

theorem binSearchS_runF (b : UInt64) : ((binSearchS cond b).runF v).1 = some b :=
  runF_fst_bind (mAccept_runF hcF b _) rfl

theorem minimizeS_runF (u : UInt64) : ((minimizeS u cond).runF v).1 = some u := by
  rw [minimizeS]
  by_cases hu : (u == 0) = true
  -- `==` on `UInt64` is `decide (_ = _)`; `eq_of_beq` would first have to find `LawfulBEq UInt64`, which is dear
  · rw [if_pos hu, of_decide_eq_true hu]; rfl
  · rw [if_neg hu]
    exact runF_fst_bind (trySmallS_runF hcF u 5 0) <| runF_fst_ite rfl <|
      runF_fst_bind (rShiftS_runF hcF 64 u) <| runF_fst_bind (unsetBitsS_runF hcF _ u) <|
      runF_fst_bind (sortBitsS_runF hcF _ u) (binSearchS_runF hcF u)

theorem trySmallS_tries (u : UInt64) : ∀ (n : Nat) (i x : UInt64), i.toNat ≤ x.toNat → x.toNat < i.toNat + n → x.toNat < 5 →
    x < u → ((cond x).runF v).2 ⊆ ((trySmallS cond u n i).runF v).2 := by
  intro n
  induction n with
  | zero => intro i x h1 h2; omega
  | succ n ih =>
    intro i x h1 h2 h5 hxu
    have hiu : i < u := UInt64.lt_of_le_of_lt (UInt64.le_iff_toNat_le.mpr h1) hxu
    have his : i < small := UInt64.lt_iff_toNat_lt.mpr (by rw [small_toNat]; omega)
    rw [trySmallS, if_pos ⟨hiu, his⟩]
    by_cases hxi : x = i
    · subst hxi; exact runF_snd_bind_left _ _
    · have hne : x.toNat ≠ i.toNat := fun h => hxi (UInt64.toNat_inj.mp h)
      have hsucc := u64_succ_toNat hiu
      refine .trans ?_ (runF_snd_bind_right (hcF i))
      exact ih (i + 1) x (by omega) (by omega) h5 hxu

/-- `u - 1` is among the values asked about: by the first loop when `u ≤ 5`, else by the binary search, which the other
    three loops hand `u` unchanged -/
theorem minimizeS_tries (u : UInt64) (hu : u ≠ 0) : ((cond (u - 1)).runF v).2 ⊆ ((minimizeS u cond).runF v).2 := by
  obtain ⟨hupos, hu1⟩ := u64_pred_toNat hu
  have hu0 : ¬ (u == 0) = true := fun h => hu (of_decide_eq_true h)
  rw [minimizeS, if_neg hu0]
  by_cases hus : u ≤ small
  · have hu5 : u.toNat ≤ 5 := by rw [UInt64.le_iff_toNat_le, small_toNat] at hus; exact hus
    exact (trySmallS_tries hcF u 5 0 (u - 1) (by simp) (by simp; omega) (by omega) (u64_pred_lt hu)).trans (runF_snd_bind_left _ _)
  · have hu5 : 5 < u.toNat := by rw [UInt64.le_iff_toNat_le, small_toNat] at hus; omega
    have hg : ¬ (u - 1 ≥ u ∨ u - 1 < small) := by
      rw [ge_iff_le, UInt64.le_iff_toNat_le, UInt64.lt_iff_toNat_lt, hu1, small_toNat]; omega
    refine .trans ?_ (runF_snd_bind_right (trySmallS_runF hcF u 5 0))
    rw [if_neg hus]
    refine .trans ?_ (runF_snd_bind_right (rShiftS_runF hcF 64 u))
    refine .trans ?_ (runF_snd_bind_right (unsetBitsS_runF hcF _ u))
    refine .trans ?_ (runF_snd_bind_right (sortBitsS_runF hcF _ u))
    rw [binSearchS, mAccept, if_neg hg]
    exact (runF_snd_bind_left _ _).trans (runF_snd_bind_left _ _)

end minimizeF

/-- the condition `minimizeBlocks` hands to `minimize` for block `i` asks about the data with block `i` replaced -/
theorem minimizeBlocks_cond_runF {v : View} {i : Nat} (hi : i < v.rc.data.length) (x : UInt64) :
    Script.runF v (do
      let v ← getV
      if i ≥ v.rc.data.length then pure false
      else
        let buf ← orOob (setIdx? v.rc.data i x)
        tryBuf buf) = (some false, [v.rc.data.set i x]) := by
  simp only [bind_eq, pure_eq, runF_getV_bind, if_neg (Nat.not_le.mpr hi), setIdx?_some x hi, runF_orOob_some]
  rfl

theorem minimizeBlocks_tries {v : View} {j : Nat} (hj : j < v.rc.data.length) (hnz : v.rc.data[j] ≠ 0) :
    ∀ (f i : Nat), i ≤ j → j < i + f → v.rc.data.set j (v.rc.data[j] - 1) ∈ ((minimizeBlocks f i).runF v).2 := by
  intro f
  induction f with
  | zero => exact fun _ hij hf => absurd hij (Nat.not_le.mpr hf)
  | succ f ih =>
    intro i hij hf
    have hi : i < v.rc.data.length := Nat.lt_of_le_of_lt hij hj
    have hcF := fun x => congrArg Prod.fst (minimizeBlocks_cond_runF hi x)
    rw [minimizeBlocks]
    simp only [bind_eq, runF_getV_bind, if_pos hi, List.getElem?_eq_getElem hi, runF_orOob_some]
    by_cases hij' : i = j
    · subst hij'
      exact runF_snd_bind_left _ _ (minimizeS_tries hcF _ hnz (by rw [minimizeBlocks_cond_runF hi]; exact List.mem_singleton_self _))
    · exact runF_snd_bind_right (minimizeS_runF hcF _) (ih (i + 1) (Nat.lt_of_le_of_ne hij hij') (Nat.succ_add i f ▸ hf))

/-- **`minimizeBlocks` made no progress ⇒ no block can be lowered by one**: for every block
    `j` with a non-zero word, the test case with that word decremented does not reproduce the
    failure (it passes, is invalid, or fails elsewhere) -/
theorem minimizeBlocks_fixpoint (p : Prog) (s s' : SS) (F : Nat) (hF : s.rc.data.length ≤ F) (hc : CacheOK p s)
    (hrun : (minimizeBlocks F 0).run p s = .ok ((), s')) (hno : s'.shrinks = s.shrinks)
    (j : Nat) (hj : j < s.rc.data.length) (hnz : s.rc.data[j] ≠ 0) :
    ¬ Reproduces p s (s.rc.data.set j (s.rc.data[j] - 1)) :=
  (run_noprogress p _ s s' () hrun hno).2.2.2.2.not_reproduces hc
    (minimizeBlocks_tries hj hnz F 0 (Nat.zero_le _) (by rw [Nat.zero_add]; exact Nat.lt_of_lt_of_le hj hF))
    (slt_set hj (u64_pred_lt hnz))

theorem cut_slt {data : List UInt64} {g : GI} {buf : List UInt64} (h : without? data [g] = some buf)
    (hne : (g.begin : Int) ≠ g.end_) : slt buf data := by
  rw [without?_singleton, cut?] at h
  split at h
  · cases h
    apply slt_of_length_lt
    simp only [List.length_append, List.length_take, List.length_drop]
    omega
  · cases h

/-- **`removeGroups` made no progress ⇒ no standalone group can be dropped**: the test case
    without any one finished standalone group (a collection element with its continue-coin, a
    whole draw) does not reproduce the failure -/
theorem removeGroups_fixpoint (p : Prog) (s s' : SS) (F : Nat) (hF : s.rc.groups.length ≤ F) (hc : CacheOK p s)
    (hrun : (removeGroups F 0).run p s = .ok ((), s')) (hno : s'.shrinks = s.shrinks)
    (j : Nat) (hj : j < s.rc.groups.length) (hst : s.rc.groups[j].standalone = true) (hfin : 0 ≤ s.rc.groups[j].end_)
    (hne : (s.rc.groups[j].begin : Int) ≠ s.rc.groups[j].end_) :
    ∃ buf, without? s.rc.data [s.rc.groups[j]] = some buf ∧ ¬ Reproduces p s buf := by
  have hall := run_noprogress p _ s s' () hrun hno
  obtain ⟨buf, hb1, hb2⟩ := removeGroups_tries ⟨s.rc, s.shrinks⟩ hj hst hfin F 0 (Nat.zero_le _)
    (by rw [Nat.zero_add]; exact Nat.lt_of_lt_of_le hj hF) hall.1
  exact ⟨buf, hb1, hall.2.2.2.2.not_reproduces hc hb2 (cut_slt hb1 hne)⟩

/-- with `R x` = "the test case with block `j` set to `x` reproduces the failure": for a threshold condition, "cannot be
    lowered by one" (`minimizeBlocks_fixpoint`) means "cannot be lowered at all" -/
theorem fails_below_of_pred {R : UInt64 → Prop} {u : UInt64} (hnz : u ≠ 0) (hmono : ∀ x y : UInt64, x ≤ y → y < u → R x → R y)
    (hfix : ¬ R (u - 1)) : ∀ x, x < u → ¬ R x := by
  intro x hx hrep
  rw [UInt64.lt_iff_toNat_lt] at hx
  exact hfix (hmono x (u - 1) (by rw [UInt64.le_iff_toNat_le, (u64_pred_toNat hnz).2]; omega) (u64_pred_lt hnz) hrep)

theorem cacheOK_init (p : Prog) (rc : Rec) (err : Option Err) : CacheOK p { rc := rc, err := err } := nofun

theorem run_cacheOK {p : Prog} {α : Type} {sc : Script α} {s s' : SS} {a : α} (hc : CacheOK p s)
    (h : sc.run p s = .ok (a, s')) : CacheOK p s' :=
  Script.run_rel p (fun s s' => CacheOK p s → CacheOK p s') (fun _ h => h) (fun f g h => g (f h)) accept_cacheOK h hc

end Rapid
