/-
  RapidProofs.Shrink — `accept`, the shrinker driven by any candidate sequence, `doCheck`.
-/
import RapidProofs.RecBound
import RapidProofs.FindBug

namespace Rapid

theorem sameError_refl (a : Option Err) : sameError a a = true := by
  simp only [sameError, beq_self_eq_true, Bool.and_self]

/-- `accept` has two outcomes: its second run is its first (`checkOnce` is a function of the bitstream), so the two errors
    it compares are one and `.mismatch` is not returned -/
theorem accept_eq (p : Prog) (s : Shr) (c : List UInt64) :
    accept p s c =
      if compareData c s.data < 0 ∧ tbKey (checkOnce p (.buf c) TS.fresh).err = tbKey s.err then
        .accepted ⟨(checkOnce p (.buf c) TS.fresh).kept, (checkOnce p (.buf c) TS.fresh).err⟩
      else .rejected := by
  by_cases hc : compareData c s.data ≥ 0
  · rw [if_neg fun h => Int.not_le.mpr h.1 hc, accept, if_pos hc]
  · by_cases htb : tbKey (checkOnce p (.buf c) TS.fresh).err = tbKey s.err
    · rw [if_pos ⟨Int.not_le.mp hc, htb⟩, accept, if_neg hc]; simp [htb, sameError_refl]
    · rw [if_neg fun h => htb h.2, accept, if_neg hc]; simp [htb]

theorem accept_no_mismatch (p : Prog) (s : Shr) (c d : List UInt64) (e : Option Err) :
    accept p s c ≠ .mismatch d e := by
  rw [accept_eq]; split <;> nofun

theorem accept_accepted {p : Prog} {s s' : Shr} {c : List UInt64} (h : accept p s c = .accepted s') :
    slt c s.data ∧ sle s'.data c ∧ slt s'.data s.data ∧ tbKey s'.err = tbKey s.err ∧
    s'.err = (checkOnce p (.buf c) TS.fresh).err ∧ s'.data = (checkOnce p (.buf c) TS.fresh).kept := by
  rw [accept_eq] at h
  have h2 := checkOnce_kept_sle p c TS.fresh
  generalize checkOnce p (.buf c) TS.fresh = r at h h2 ⊢
  by_cases hc : compareData c s.data < 0 ∧ tbKey r.err = tbKey s.err
  · rw [if_pos hc] at h
    cases h
    exact ⟨hc.1, h2, slt_of_sle_of_slt h2 hc.1, hc.2, rfl, rfl⟩
  · rw [if_neg hc] at h
    cases h

def FromRun (p : Prog) (s : Shr) : Prop :=
  ∃ src, (checkOnce p src TS.fresh).err = s.err ∧ (checkOnce p src TS.fresh).kept = s.data

/-- **the shrinker, for every candidate sequence** (every pass, every deadline cut): the result
    is never larger than the start, has the failure site of the start, and is the pruned
    recording of an executed run that failed with the returned error. -/
theorem shrinkWith_spec (p : Prog) : ∀ (cands : List (List UInt64)) (s : Shr), FromRun p s →
    sle (shrinkWith p s cands).1 s.data ∧
    tbKey (shrinkWith p s cands).2 = tbKey s.err ∧
    FromRun p ⟨(shrinkWith p s cands).1, (shrinkWith p s cands).2⟩ := by
  intro cands s hs
  induction cands generalizing s with
  | nil => exact ⟨sle_refl _, rfl, hs⟩
  | cons c cs ih =>
    simp only [shrinkWith]
    cases ha : accept p s c with
    | rejected => exact ih s hs
    | mismatch d e => exact absurd ha (accept_no_mismatch p s c d e)
    | accepted s' =>
      dsimp only
      obtain ⟨_, _, h3, h4, h5, h6⟩ := accept_accepted ha
      have hs' : FromRun p s' := ⟨.buf c, h5.symm, h6.symm⟩
      obtain ⟨a, b, c'⟩ := ih s' hs'
      exact ⟨(sle_trans a (Int.le_of_lt h3)).1, by rw [b, h4], c'⟩

def acceptedStates (p : Prog) : Shr → List (List UInt64) → List Shr
  | _, [] => []
  | s, c :: cs =>
    match accept p s c with
    | .accepted s' => s' :: acceptedStates p s' cs
    | _ => acceptedStates p s cs

theorem acceptedStates_decreasing (p : Prog) : ∀ (cands : List (List UInt64)) (s : Shr),
    List.Pairwise (fun a b => slt b.data a.data) (s :: acceptedStates p s cands) := by
  intro cands s
  induction cands generalizing s with
  | nil => simp [acceptedStates]
  | cons c cs ih =>
    simp only [acceptedStates]
    cases ha : accept p s c with
    | rejected => exact ih s
    | mismatch d e => exact ih s
    | accepted s' =>
      dsimp only
      have h3 := (accept_accepted ha).2.2.1
      have := ih s'
      refine List.Pairwise.cons ?_ this
      intro x hx
      rcases List.mem_cons.mp hx with rfl | hx
      · exact h3
      · exact slt_of_slt_of_sle ((List.pairwise_cons.mp this).1 x hx) (Int.le_of_lt h3)

/-- prune stability of a property: the pruned recording of a failing run fails the same way -/
def PruneStable (p : Prog) : Prop :=
  ∀ src, (∃ e, (checkOnce p src TS.fresh).err = some e ∧ e.isInvalid = false) →
    (checkOnce p (.buf (checkOnce p src TS.fresh).kept) TS.fresh).err = (checkOnce p src TS.fresh).err

/-- the assertion at the end of `prune()` ("no group is empty") holds for the recordings of
    this property: true of everything built from the public generators (a finished,
    non-discarded group keeps at least one word, see `KeepsSome`); an arbitrary `Prog` can
    violate it, and Go then panics with "assertion failed" -/
def PruneOK (p : Prog) : Prop :=
  ∀ buf, (prunedOfToks (checkOnce p (.buf buf) TS.fresh).toks).noEmptyGroup = true

theorem firstFailFile_spec {p : Prog} {files : List FF} {i : Nat} {r : Nat × List UInt64 × Option Err × Option Err}
    (h : firstFailFile p files i = some r) :
    r.2.2.1 = r.2.2.2 ∧ r.2.2.2 = (checkOnce p (.buf r.2.1) TS.fresh).err ∧
    ∃ e, r.2.2.2 = some e ∧ e.isInvalid = false := by
  induction files generalizing i with
  | nil => cases h
  | cons f fs ih =>
    rw [firstFailFile] at h
    cases hc : checkFailFile p f with
    | none => rw [hc] at h; exact ih h
    | some t => rw [hc] at h; cases h; exact checkFailFile_spec hc

theorem fails_iff_tbKey : ∀ {x : Option Err}, Fails x ↔ ∃ n, tbKey x = some (true, n)
  | none => ⟨nofun, nofun⟩
  | some (.invalid _) => ⟨fun ⟨_, h, he⟩ => (by cases h; cases he), nofun⟩
  | some (.stop _ _) | some (.panic _ _) | some .fuel => ⟨fun _ => ⟨_, rfl⟩, fun _ => ⟨_, rfl, rfl⟩⟩

section
variable {p : Prog} {checks : Nat} {seed : UInt64} {files : List FF} {early : Nat → Bool} {cands : List (List UInt64)}

theorem doCheck_of_file {r : Nat × List UInt64 × Option Err × Option Err} (h : firstFailFile p files 0 = some r) :
    doCheck p checks seed files early cands = ⟨0, 0, false, 0, some r.1, r.2.1, r.2.2.1, r.2.2.2, []⟩ := by
  simp only [doCheck, h]

theorem doCheck_of_pass (hf : firstFailFile p files 0 = none) {fb : FB} (hfb : findBug p checks seed early = fb) (h : fb.err = none) :
    doCheck p checks seed files early cands = ⟨fb.valid, fb.invalid, fb.early, 0, none, [], none, none, fb.seeds⟩ := by
  subst hfb
  simp only [doCheck, hf, h]

/-- the failing seed fails again on a fresh `*T` (isolation), so the shrinker always starts -/
theorem doCheck_of_bug (hf : firstFailFile p files 0 = none) {fb : FB} (hfb : findBug p checks seed early = fb) {e : Err}
    (h : fb.err = some e) :
    doCheck p checks seed files early cands =
      ⟨fb.valid, fb.invalid, false, fb.seed, none,
        (shrinkWith p ⟨(checkOnce p (.rng (Jsf.init fb.seed)) TS.fresh).kept, some e⟩ cands).1, some e,
        (shrinkWith p ⟨(checkOnce p (.rng (Jsf.init fb.seed)) TS.fresh).kept, some e⟩ cands).2, fb.seeds⟩ := by
  subst hfb
  simp only [doCheck, hf, h, (findBug_blame p checks seed early e h).2, sameError_refl, Bool.not_true, Bool.false_eq_true, if_false]

end

/-- **C01 core**: whatever `doCheck` reports as a failure is a failure of the reported buffer,
    with the reported error, and the two errors it hands to `checkTB` have the same
    traceback (so the "flaky" branch is not taken) — for every candidate sequence of the
    shrinker, i.e. with minimization cut short anywhere. -/
theorem doCheck_reported (p : Prog) (hps : PruneStable p) (checks : Nat) (seed : UInt64) (files : List FF)
    (early : Nat → Bool) (cands : List (List UInt64)) :
    let d := doCheck p checks seed files early cands
    (d.err1.isSome ∨ d.err2.isSome) →
      tbKey d.err1 = tbKey d.err2 ∧ d.err2 = (checkOnce p (.buf d.buf) TS.fresh).err ∧
      ∃ e, d.err2 = some e ∧ e.isInvalid = false := by
  intro d hd
  cases hf : firstFailFile p files 0 with
  | some r =>
    obtain ⟨h1, h2, h3⟩ := firstFailFile_spec hf
    simp only [d, doCheck_of_file hf]
    exact ⟨by rw [h1], h2, h3⟩
  | none =>
    cases hfb : (findBug p checks seed early).err with
    | none => simp [d, doCheck_of_pass hf rfl hfb] at hd
    | some e =>
      obtain ⟨hinv, hrun⟩ := findBug_blame p checks seed early e hfb
      obtain ⟨_, h2, ⟨src, h3, h4⟩⟩ := shrinkWith_spec p cands _ (⟨_, hrun, rfl⟩ : FromRun p ⟨_, some e⟩)
      have hkey : Fails _ := fails_iff_tbKey.mpr (h2 ▸ fails_iff_tbKey.mp ⟨e, rfl, hinv⟩)
      simp only [d, doCheck_of_bug hf rfl hfb]
      refine ⟨h2.symm, ?_, hkey⟩
      have := hps src (h3 ▸ hkey)
      rw [h4, h3] at this
      exact this.symm

theorem verdict_of_none {checks : Nat} {d : DC} (h1 : d.err1 = none) (h2 : d.err2 = none) :
    verdict checks d =
      if d.valid = checks ∨ (d.early ∧ d.valid > 0) then .pass d.valid else .onlyGenerated d.valid (d.valid + d.invalid) := by
  rw [verdict, h1, h2]

theorem verdict_of_some {checks : Nat} {d : DC} {e : Err} (h2 : d.err2 = some e) (hk : tbKey d.err1 = tbKey d.err2) :
    verdict checks d = .failed d.valid e d.seed d.buf := by
  rw [h2] at hk
  rw [verdict, h2]
  cases h1 : d.err1 <;> rw [h1] at hk <;> simp only [hk, beq_self_eq_true, if_true]

/-- never "flaky", and a reported failure names an error the reported buffer reproduces -/
theorem verdict_of_doCheck (p : Prog) (hps : PruneStable p) (checks : Nat) (seed : UInt64) (files : List FF)
    (early : Nat → Bool) (cands : List (List UInt64)) :
    match verdict checks (doCheck p checks seed files early cands) with
    | .flaky _ _ => False
    | .failed _ e _ buf => (checkOnce p (.buf buf) TS.fresh).err = some e ∧ e.isInvalid = false
    | _ => True := by
  have h := doCheck_reported p hps checks seed files early cands
  generalize doCheck p checks seed files early cands = d at h
  by_cases hd : d.err1.isSome ∨ d.err2.isSome
  · obtain ⟨a, b, e, c1, c2⟩ := h hd
    rw [verdict_of_some c1 a]
    exact ⟨(c1 ▸ b).symm, c2⟩
  · rw [verdict_of_none (by simpa using fun h => hd (.inl h)) (by simpa using fun h => hd (.inr h))]
    by_cases hc : d.valid = checks ∨ (d.early ∧ d.valid > 0)
    · rw [if_pos hc]; trivial
    · rw [if_neg hc]; trivial

end Rapid
