/-
  C05 — minimization keeps the same failure and only ever gets smaller.
  All statements are for every property, every start state and EVERY sequence of candidate
  buffers (any pass, any order, any deadline cut).
-/
import RapidModel.Generated.CallOrders
import RapidModel.Generated.Consts
import RapidProofs.PruneProp
import RapidProofs.TranslatedAcceptEq
import RapidProofs.TranslatedRecEq
import RapidProofs.TranslatedShrinkRun

namespace Rapid.C05

/-- an accepted step: strictly smaller than the current data, same failure site; the new
    data is `≤` the candidate and comes from an executed run failing with the new error -/
theorem accepted_step (p : Prog) (s s' : Shr) (c : List UInt64) (h : accept p s c = .accepted s') :
    slt c s.data ∧ sle s'.data c ∧ slt s'.data s.data ∧ tbKey s'.err = tbKey s.err ∧
    s'.err = (checkOnce p (.buf c) TS.fresh).err ∧ s'.data = (checkOnce p (.buf c) TS.fresh).kept :=
  accept_accepted h

/-- the result of the shrinker: not larger than the start, same site, from an executed run -/
theorem shrink_result (p : Prog) (cands : List (List UInt64)) (s : Shr) (h : FromRun p s) :
    sle (shrinkWith p s cands).1 s.data ∧ tbKey (shrinkWith p s cands).2 = tbKey s.err ∧
    FromRun p ⟨(shrinkWith p s cands).1, (shrinkWith p s cands).2⟩ :=
  shrinkWith_spec p cands s h

/-- every accepted state is strictly smaller than all earlier ones -/
theorem accepted_strictly_decreasing (p : Prog) (cands : List (List UInt64)) (s : Shr) :
    List.Pairwise (fun a b => slt b.data a.data) (s :: acceptedStates p s cands) :=
  acceptedStates_decreasing p cands s

/-- …and `<ₛₗ` (length, then lexicographic — `compareData`) is well-founded: there is no infinite
    sequence of accepted steps, with or without a time limit -/
theorem shortlex_well_founded : WellFounded slt := slt_wf

/-- the pruned recording of any run on a buffer is `≤ₛₗ` the buffer (`accept`'s assertion) -/
theorem recording_not_larger (p : Prog) (ws : List UInt64) (ts : TS) : sle (checkOnce p (.buf ws) ts).kept ws :=
  checkOnce_kept_sle p ws ts

example : slt [1, 2] [1, 3] ∧ slt [9] [0, 0] ∧ ¬ slt [1, 2] [1, 2] := by unfold slt; decide


/-- no index or slice expression evaluated by any pass is out of range — for every recording
    whose groups lie inside its data, every sequence of accept/reject answers, every fuel.
    (Fails for the code before the fix of D9: `buf[i]` in `minimizeBlocks` and
    `s.rec.groups[j]` in `sortGroups` used positions of a recording that an accepted
    candidate had just replaced by a shorter one.) -/
theorem passes_never_index_out_of_range (F : Nat) : SafeAll (shrinkScript F) := safe_shrinkScript F

/-- the passes, run against any property: no crash, and the run is the abstract shrinker on the
    candidates the passes tried — so everything proved for every candidate sequence holds for
    the shrinker as implemented, wherever its deadline cuts it -/
theorem passes_refine_shrinkWith (p : Prog) (hP : PruneOK p) (F : Nat) (s : SS) (hr : RecWF s.rc) :
    ∃ s' cands, (shrinkScript F).run p s = .ok ((), s') ∧
      shrinkWith p s.shr cands = (s'.rc.data, s'.err) ∧ s'.log = cands.reverse ++ s.log ∧ RecWF s'.rc :=
  shrinkScript_run p hP F s hr

/-- result of the concrete shrinker: not larger than the start, same failure site, pruned
    recording of an executed failing run -/
theorem concrete_shrinker_result (p : Prog) (hP : PruneOK p) (F : Nat) (s : SS) (hr : RecWF s.rc)
    (h : FromRun p s.shr) :
    ∃ s', (shrinkScript F).run p s = .ok ((), s') ∧ sle s'.rc.data s.rc.data ∧ tbKey s'.err = tbKey s.err ∧
      FromRun p ⟨s'.rc.data, s'.err⟩ := by
  obtain ⟨s', cands, h1, h2, _, _⟩ := shrinkScript_run p hP F s hr
  have := shrinkWith_spec p cands s.shr h
  rw [h2] at this
  exact ⟨s', h1, this.1, this.2.1, this.2.2⟩

/-- for every property function built from Custom-free generators and the `*T` API the
    assertion of `prune()` never fires (`PruneOK`), so the statement about the concrete shrinker
    needs no hypothesis about recordings at all -/
theorem shrinker_result_for_generator_properties (e : Env) (hrt : RTPos e) (p : Prog) (hp : PropProg e p)
    (F : Nat) (s : SS) (hr : RecWF s.rc) (h : FromRun p s.shr) :
    ∃ s', (shrinkScript F).run p s = .ok ((), s') ∧ sle s'.rc.data s.rc.data ∧ tbKey s'.err = tbKey s.err ∧
      FromRun p ⟨s'.rc.data, s'.err⟩ :=
  concrete_shrinker_result p (pruneOK_of_propProg e hrt hp) F s hr h

/-- the same for property functions over generators with quiet `Custom` functions nested to any
    depth (`PropProgC`, RapidProofs/PruneCustom.lean) -/
theorem shrinker_result_for_custom_generator_properties (e : Env) (hrt : RTPos e) (d : Nat) (p : Prog)
    (hp : PropProgC e d p) (F : Nat) (s : SS) (hr : RecWF s.rc) (h : FromRun p s.shr) :
    ∃ s', (shrinkScript F).run p s = .ok ((), s') ∧ sle s'.rc.data s.rc.data ∧ tbKey s'.err = tbKey s.err ∧
      FromRun p ⟨s'.rc.data, s'.err⟩ :=
  concrete_shrinker_result p (pruneOK_of_propProgC e hrt hp) F s hr h

/-- `prune()` of the recording of ANY run of ANY program keeps exactly the words the model calls
    `kept` (everything except finished discarded groups) … -/
theorem prune_data_is_kept (p : Prog) (src : Src) (ts : TS) :
    (prunedOfToks (checkOnce p src ts).toks).data = (checkOnce p src ts).kept :=
  checkOnce_pruned_data p src ts

/-- … and leaves every finished group inside the data: the recordings the shrinker holds are
    always well-formed (the premise of `passes_never_index_out_of_range`) -/
theorem pruned_recording_well_formed (toks : List Tok) : RecWF (prunedOfToks toks) := prunedOfToks_wf toks

/-- the premises are satisfiable: the empty recording is well-formed -/
example : RecWF Rec.empty := by intro g hg; cases hg


/-! ### source facts, re-read from /repo on every run: every loop and branch condition of the
    passes is the one the model (`RapidModel.Passes`, `RapidModel.Rec`) was written from -/

open Rapid.Generated in
theorem pass_conditions_source :
    conds_removeGroups = ["for i < len(s.rec.groups) && time.Now().Before(deadline)", "if !g.standalone || g.end < 0",
      "if s.accept(without(s.rec.data, g), …)"] ∧
    conds_minimizeBlocks = ["for i < len(s.rec.data) && time.Now().Before(deadline)", "if i >= len(s.rec.data)"] ∧
    conds_lowerFloatHack = ["for i < len(s.rec.groups) && time.Now().Before(deadline)",
      "if !g.standalone || g.end != g.begin + 7", "if !s.accept(buf, …)", "if !s.accept(buf, …)"] ∧
    conds_removeGroupsAndLower = ["for i < len(s.rec.data) && time.Now().Before(deadline)", "if s.rec.data[i] == 0",
      "for j < len(s.rec.groups)", "if !g.standalone || g.end < 0 || (i >= g.begin && i < g.end)",
      "if s.accept(without(buf, g), …)"] ∧
    conds_sortGroups = ["for i < len(s.rec.groups) && time.Now().Before(deadline)", "for j > 0 && j < len(s.rec.groups)",
      "if !g.standalone || g.end < 0", "for j >= 0",
      "if !h.standalone || h.end < 0 || h.end > g.begin || h.label != g.label", "if s.accept(buf, …)"] ∧
    conds_removeGroupSpans = ["for i < len(s.rec.groups) && time.Now().Before(deadline)", "if !g.standalone || g.end < 0",
      "for j < len(s.rec.groups)", "if !h.standalone || h.end < 0 || h.begin < groups[len(groups) - 1].end",
      "if s.accept(buf, …)"] ∧
    conds_shrink = ["if r != nil", "for s.shrinks > shrinks && time.Now().Before(deadline)", "if s.shrinks == shrinks"] :=
  ⟨rfl, rfl, rfl, rfl, rfl, rfl, rfl⟩

open Rapid.Generated in
theorem accept_and_minimize_conditions_source :
    conds_accept = ["if compareData(buf, s.rec.data) >= 0", "if ok", "if traceback(err1) != traceback(s.err)",
      "if flags.debugvis", "if !sameError(err1, err2)"] ∧
    conds_minimize = ["if u == 0", "for i < u && i < small", "if cond(i, labelMinBlockTrySmall)", "if u <= small"] ∧
    conds_minimizer_accept = ["if u >= m.best || u < small || !m.cond(u, label)"] ∧
    conds_removeGroup = ["for j < len(rec.groups) && rec.groups[j].end <= g.end", "if rec.groups[j].begin >= g.end",
      "if rec.groups[j].end >= g.end"] ∧
    conds_prune = ["for i < len(rec.groups)", "if rec.groups[i].discard"] :=
  ⟨rfl, rfl, rfl, rfl, rfl⟩

/-- **`compareData` of /repo is the model's `compareData`** — the order in which the shrinker's `accept` demands every
    accepted candidate to be strictly smaller (length first, then lexicographic) -/
theorem source_compareData (a b : List UInt64) (fuel : Nat) (ha : a.length < 2 ^ 62) (hb : b.length < 2 ^ 62) (hf : a.length < fuel) :
    Translated.compareData a b fuel = .ok (Int64.ofInt (compareData a b)) :=
  tr_compareData a b fuel ha hb hf

/-- **`without(data, groups...)` of /repo is the model's `without?`** for groups with usable bounds: the groups are cut
    out last first; a bound outside the data is a runtime panic in the source and `none` in the model -/
theorem source_without (data : List UInt64) (groups : List Translated.groupInfo) (fuel : Nat) (hok : ∀ g ∈ groups, GOK g)
    (hl : groups.length < 2 ^ 62) (hf : groups.length < fuel) :
    Translated.without data groups fuel =
      match without? data (groups.map giOf) with
      | some d => .ok d
      | none => .error .runtime :=
  tr_without data groups fuel hok hl hf

/-- **`recordedBits.removeGroup(i)` of /repo is the model's `Rec.removeGroup`**: same data, same group list (the group and
    what directly follows it and ends inside it dropped, everything behind shifted), for every recording with sizes
    below 2^61 on which the model's function does not stop at a panic -/
theorem source_removeGroup (r r' : Rec) (hs : r.Small) (i fuel : Nat) (hf : r.groups.length + 2 ≤ fuel)
    (h : r.removeGroup i = some r') :
    Translated.recordedBits_removeGroup r.data (r.groups.map goOf) (Int64.ofNat i) fuel = .ok (r'.data, r'.groups.map goOf) :=
  tr_removeGroup r r' hs i fuel hf h

/-- **`recordedBits.prune()` of /repo is the model's `Rec.prune`** — the loop over the groups, each `removeGroup`, and
    the closing assertions that no group is left empty -/
theorem source_prune (r r' : Rec) (hs : r.Small) (fuel : Nat) (hf : 2 * r.groups.length + 4 ≤ fuel) (h : r.prune = some r') :
    Translated.recordedBits_prune r.data (r.groups.map goOf) true fuel = .ok (r'.data, r'.groups.map goOf, true) :=
  tr_prune r r' hs fuel hf h

/-- **the literal `prune()` and the pruned recording of the theorems agree, for every program and every bit source**:
    `Rec.prune` (the loop over `removeGroup`, proved equal to the source's by `source_prune`) applied to the recording of
    a run succeeds whenever the pruned recording has no empty group, and leaves the data and the finished groups of
    `prunedOfToks` — the recording `prune_data_is_kept`, `pruned_recording_well_formed` and the refinement of the passes
    are about.  (Unfinished entries that directly follow a removed group in the list are dropped by `removeGroup` and
    kept by `prunedOfToks`; no pass looks at them.) -/
theorem literal_prune_of_run (p : Prog) (src : Src) (ts : TS)
    (hne : (prunedOfToks (p.run src ts).toks).noEmptyGroup = true) :
    ∃ r', (recOfToks (p.run src ts).toks).prune = some r' ∧ r'.finished = (prunedOfToks (p.run src ts).toks).finished :=
  Rapid.literal_prune_of_run p src ts hne

/-- … and so does the source: `recordedBits.prune()` of /repo, run on the recording of any run of any program (sizes
    below 2^61), returns a recording with the data and the finished groups of `prunedOfToks` -/
theorem source_prune_of_run (p : Prog) (src : Src) (ts : TS) (fuel : Nat)
    (hs : (recOfToks (p.run src ts).toks).Small) (hf : 2 * (recOfToks (p.run src ts).toks).groups.length + 4 ≤ fuel)
    (hne : (prunedOfToks (p.run src ts).toks).noEmptyGroup = true) :
    ∃ r' : Rec, Translated.recordedBits_prune (recOfToks (p.run src ts).toks).data ((recOfToks (p.run src ts).toks).groups.map goOf) true fuel =
        .ok (r'.data, r'.groups.map goOf, true) ∧
      r'.finished = (prunedOfToks (p.run src ts).toks).finished := by
  obtain ⟨r', h1, h2⟩ := Rapid.literal_prune_of_run p src ts hne
  exact ⟨r', tr_prune _ r' hs fuel hf h1, h2⟩

/-- **from the calls to the pruned recording, all in the source's functions**: replaying the recording calls of any run
    through the translated `record`/`beginGroup`/`endGroup` gives a recording (no assertion of `endGroup` fires) which
    the translated `prune()` turns into one with the data and the finished groups of `prunedOfToks`; the only
    premises are the two lengths (below 2^62 words, 2^61 groups) and the closing assertion of `prune()` -/
theorem source_record_and_prune_of_run (p : Prog) (src : Src) (ts : TS) (fuel : Nat)
    (hd : (recOfToks (p.run src ts).toks).data.length < 2 ^ 62) (hg : (recOfToks (p.run src ts).toks).groups.length < 2 ^ 61)
    (hf : 2 * (recOfToks (p.run src ts).toks).groups.length + 4 ≤ fuel)
    (hne : (prunedOfToks (p.run src ts).toks).noEmptyGroup = true) :
    ∃ (d : List UInt64) (g : List Translated.groupInfo) (r' : Rec),
      srcRecGo (p.run src ts).toks [] [] [] = some (d, g) ∧
      Translated.recordedBits_prune d g true fuel = .ok (r'.data, r'.groups.map goOf, true) ∧
      r'.finished = (prunedOfToks (p.run src ts).toks).finished := by
  obtain ⟨r', h1, h2⟩ := source_prune_of_run p src ts fuel (small_of_run p src ts hd hg) hf hne
  exact ⟨_, _, r', srcRecGo_of_run p src ts hd hg, h1, h2⟩

/-- for properties built from the generators and the `*T` API the assertion premise holds by itself -/
theorem source_prune_of_generator_property (e : Env) (hrt : RTPos e) (p : Prog) (hp : PropProg e p) (src : Src) (ts : TS) (fuel : Nat)
    (hs : (recOfToks (p.run src ts).toks).Small) (hf : 2 * (recOfToks (p.run src ts).toks).groups.length + 4 ≤ fuel) :
    ∃ r' : Rec, Translated.recordedBits_prune (recOfToks (p.run src ts).toks).data ((recOfToks (p.run src ts).toks).groups.map goOf) true fuel =
        .ok (r'.data, r'.groups.map goOf, true) ∧
      r'.finished = (prunedOfToks (p.run src ts).toks).finished :=
  source_prune_of_run p src ts fuel hs hf (pruned_noEmpty (propProg_gk e hrt hp) src ts)

def exProg : Prog := .group "try" true (.draw 8 fun _ => .ret .nil) (fun _ => true) fun _ =>
  .group "elem" true (.draw 8 fun _ => .ret .nil) (fun _ => false) fun _ => .ret .nil

/-- the recording of a run with a rejected attempt followed by a kept element -/
theorem exToks : (exProg.run (.buf [5, 7]) TS.fresh).toks =
    [.opn "try" true, .w 5, .cls true, .opn "elem" true, .w 7, .cls false] := by
  decide +kernel

/-- the premises of `source_prune_of_run` are satisfiable -/
example : (recOfToks (exProg.run (.buf [5, 7]) TS.fresh).toks).Small ∧
    (prunedOfToks (exProg.run (.buf [5, 7]) TS.fresh).toks).noEmptyGroup = true ∧
    (prunedOfToks (exProg.run (.buf [5, 7]) TS.fresh).toks).data = [7] := by
  rw [exToks]
  exact ⟨by unfold Rec.Small GI.Small; decide, by decide, by decide⟩

/-- the premises are satisfiable: a recording with a discarded group between two kept ones -/
example : (⟨[1, 2, 3], [⟨"a", true, 0, 1, false⟩, ⟨"b", true, 1, 2, true⟩, ⟨"c", true, 2, 3, false⟩]⟩ : Rec).Small ∧
    (⟨[1, 2, 3], [⟨"a", true, 0, 1, false⟩, ⟨"b", true, 1, 2, true⟩, ⟨"c", true, 2, 3, false⟩]⟩ : Rec).prune =
      some ⟨[1, 3], [⟨"a", true, 0, 1, false⟩, ⟨"c", true, 1, 2, false⟩]⟩ := by
  exact ⟨by unfold Rec.Small GI.Small; decide, by rfl⟩

/-- **every pass of the shrinker and the round loop of `shrinker.shrink`, as translated from the source, agree with the model's
    `shrinkScript`** against *every* shrinker `o` (any state space, any behaviour of `accept`) whose states are well-formed
    (recordings of fewer than 2^61 entries, finished groups that do not end before they begin, a rejected candidate leaves the
    recording alone, fewer than 2^62 accepted candidates): with `fuel ≤ F` the source proposes the same candidates in the same
    order from the same states and ends in the same state as the model, hits an out-of-range index exactly where the model does,
    or runs out of fuel (a deadline cut, which may happen anywhere).  `removeGroups`, `minimizeBlocks` with `minimize` and the
    `minimizer` calling back into `accept`, `lowerFloatHack`, `removeGroupsAndLower`, `sortGroups`, `removeGroupSpans`. -/
theorem source_shrinker_passes {σ : Type} (o : Oracle σ) (wf : o.WF) (hsh : ∀ s, (o.view s).shrinks < 2 ^ 62) (F fuel : Nat)
    (h : fuel ≤ F) (s : σ) :
    Agree (fun _ _ => True) (Rapid.SM.exec o (Rapid.Translated.shrinker_shrink fuel) s) ((shrinkScript F).exec o s) :=
  tr_shrink o wf hsh F fuel h s

/-- each pass on its own -/
theorem source_passes_one_by_one {σ : Type} (o : Oracle σ) (wf : o.WF) (fuel fm : Nat) (h : fuel ≤ fm) (s : σ) :
    Agree (fun _ _ => True) (Rapid.SM.exec o (Rapid.Translated.shrinker_removeGroups fuel) s) ((removeGroups fm 0).exec o s) ∧
    Agree (fun _ _ => True) (Rapid.SM.exec o (Rapid.Translated.shrinker_minimizeBlocks fuel) s) ((minimizeBlocks fm 0).exec o s) ∧
    Agree (fun _ _ => True) (Rapid.SM.exec o (Rapid.Translated.shrinker_lowerFloatHack fuel) s) ((lowerFloatHack fm 0).exec o s) ∧
    Agree (fun _ _ => True) (Rapid.SM.exec o (Rapid.Translated.shrinker_removeGroupsAndLower fuel) s) ((removeGroupsAndLower fm 0).exec o s) ∧
    Agree (fun _ _ => True) (Rapid.SM.exec o (Rapid.Translated.shrinker_sortGroups fuel) s) ((sortGroups fm 1).exec o s) ∧
    Agree (fun _ _ => True) (Rapid.SM.exec o (Rapid.Translated.shrinker_removeGroupSpans fuel) s) ((removeGroupSpans fm 0).exec o s) :=
  ⟨tr_removeGroups o wf fuel fm h s, tr_minimizeBlocks o wf fuel fm s h, tr_lowerFloatHack o wf fuel fm h s,
   tr_removeGroupsAndLower o wf fuel fm h s, tr_sortGroups o wf fuel fm h s, tr_removeGroupSpans o wf fuel fm h s⟩

/-- … and against rapid's own `accept`: from a state of an invariant that `accept` keeps, the translated `shrinker.shrink`
    ends where `Script.run p (shrinkScript F)` ends — the run `passes_refine_shrinkWith` and `concrete_shrinker_result` are
    about — or runs out of fuel -/
theorem source_shrinker_run (p : Prog) (Inv : SS → Prop) (h : RunInv p Inv) (s0 : SS) (hs0 : Inv s0) (F fuel : Nat) (hf : fuel ≤ F) :
    RunAgrees p s0 (shrinkScript F) (Rapid.SM.exec (runOracle p) (Rapid.Translated.shrinker_shrink fuel) s0) :=
  tr_shrink_run p Inv h s0 hs0 F fuel hf

/-- a shrinker whose recording is a float group followed by a word and that rejects everything -/
def exOracle : Oracle Unit :=
  ⟨fun _ => ⟨⟨[1, 2, 3, 4, 5, 6, 7, 8], [⟨"f", true, 0, 7, false⟩, ⟨"w", true, 7, 8, false⟩]⟩, 0⟩, fun _ _ => some (false, ())⟩

/-- the hypotheses of `source_shrinker_passes` are satisfiable -/
example : exOracle.WF ∧ (∀ s, (exOracle.view s).shrinks < 2 ^ 62) := by
  exact ⟨⟨fun () => by unfold Rec.Small GI.Small; decide, fun () => by decide, fun _ _ _ _ => rfl⟩, fun () => by decide⟩

/-- **`shrinker.accept` of the source, translated on every run, is the model's `SS.accept`** — the oracle the translated passes are
    run against in `source_shrinker_run` —: for every state of the shrinker, candidate and property the same answer and the same
    new state (test case, error, cache, number of accepted steps).  In particular a candidate that is not *strictly smaller*
    than the current test case (`compareData ≥ 0`) is refused before anything runs, whoever proposes it (S160 skipped that
    comparison for `minimizeBlocks`); a candidate is accepted only if its first run fails with the same traceback, and the
    second run — the one that is recorded and pruned — gives the same error (else `panic(err2)`).  Size conditions: fewer than
    2^62 words in the candidate, the current and the new test case. -/
theorem source_accept (E : Go.CEnv) (s : SS) (buf : List UInt64) (hits : Int64) (fuel : Nat) (o : Option Once)
    (hb : buf.length < 2 ^ 62) (hd : s.rc.data.length < 2 ^ 62) (hf : buf.length < fuel)
    (hk1 : (prunedOfToks (checkOnce E.p (.buf buf) TS.fresh).toks).data.length < 2 ^ 62)
    (hk2 : (prunedOfToks (checkOnce E.p (.buf buf) TS.fresh).toks).data.length < fuel) :
    (Go.CM.run E (Translated.shrinker_acceptC s.rc.data s.err s.cache hits (Int64.ofNat s.shrinks) buf fuel) o).1 =
      match s.accept E.p buf with
      | .ok r => .ok (Go.acceptOut (if compareData buf s.rc.data < 0 ∧ s.cache.contains buf then hits + 1 else hits) r)
      | .error (.mismatch _ _ _) => .error .mismatch
      | .error _ => .error .assertion :=
  Go.tr_accept E s buf hits fuel o hb hd hf hk1 hk2

/-- so an accepted candidate is strictly smaller than the test case before it, for the *source's* `accept` -/
theorem source_accept_smaller (E : Go.CEnv) (s : SS) (buf : List UInt64) (hits : Int64) (fuel : Nat) (o : Option Once)
    (hb : buf.length < 2 ^ 62) (hd : s.rc.data.length < 2 ^ 62) (hf : buf.length < fuel)
    (hk1 : (prunedOfToks (checkOnce E.p (.buf buf) TS.fresh).toks).data.length < 2 ^ 62)
    (hk2 : (prunedOfToks (checkOnce E.p (.buf buf) TS.fresh).toks).data.length < fuel)
    (d : List UInt64) (e : Option Err) (c : List (List UInt64)) (h n : Int64)
    (hrun : (Go.CM.run E (Translated.shrinker_acceptC s.rc.data s.err s.cache hits (Int64.ofNat s.shrinks) buf fuel) o).1 =
      .ok (true, d, e, c, h, n)) :
    compareData buf s.rc.data < 0 := by
  rw [source_accept E s buf hits fuel o hb hd hf hk1 hk2] at hrun
  by_cases hc : compareData buf s.rc.data ≥ 0
  · rw [SS.accept, if_pos hc] at hrun
    cases hrun
  · omega

/-- `shrinker.accept` re-read from /repo statement by statement: the model's `accept` (`SS.accept`) was written against exactly this text — a candidate that is not strictly smaller than the current test case is refused before anything runs; the cache only remembers candidates whose first run had another traceback; the first run decides (traceback), the second run records, is pruned, must not be larger than the candidate, and must give the same error (else `panic(err2)`); only then `shrinks++` -/
theorem accept_body_source : Rapid.Generated.body_shrinker_accept =
    ["{", "if compareData(buf, s.rec.data) >= 0 {", "return false", "}", "bufStr := dataStr(buf)",
     "if _, ok := s.cache[bufStr]; ok {", "s.hits++", "return false", "}",
     "s.debugf(true, label+\": trying to reproduce the failure with a smaller test case: \"+format, args...)",
     "s.tries[label]++", "s1 := newBufBitStream(buf, false)",
     "err1 := checkOnce(newT(s.tb, s1, flags.debug && flags.verbose, nil), s.prop)",
     "if traceback(err1) != traceback(s.err) {", "s.cache[bufStr] = struct{}{}", "return false", "}",
     "s.debugf(true, label+\": trying to reproduce the failure\")", "s.tries[label]++", "s.err = err1",
     "s2 := newBufBitStream(buf, true)",
     "err2 := checkOnce(newT(s.tb, s2, flags.debug && flags.verbose, nil), s.prop)", "s.rec = s2.recordedBits",
     "s.rec.prune()", "assert(compareData(s.rec.data, buf) <= 0)", "if flags.debugvis {",
     "s.visBits = append(s.visBits, s.rec)", "}", "if !sameError(err1, err2) {", "panic(err2)", "}",
     "s.debugf(false, label+\" success: \"+format, args...)", "s.shrinks++", "return true", "}"] := by rfl

/-- `shrink` re-read from /repo statement by statement: the recording is pruned first, the shrinker starts from it and from the error of the reproduce run (`doCheck` hands both over: `source_doCheck`) -/
theorem shrink_entry_source : Rapid.Generated.body_shrink =
    ["{", "rec.prune()", "s := &shrinker{", "tb:\t\ttb,", "rec:\t\trec,", "err:\t\terr,", "prop:\t\tprop,",
     "visBits:\t[]recordedBits{rec},", "tries:\t\tmap[string]int{},", "cache:\t\tmap[string]struct{}{},", "}",
     "buf, err := s.shrink(deadline)", "if flags.debugvis {",
     "name := fmt.Sprintf(\"vis-%v.html\", strings.Replace(tb.Name(), \"/\", \"_\", -1))",
     "f, err := os.Create(name)", "if err != nil {", "tb.Logf(\"failed to create debugvis file %v: %v\", name, err)",
     "} else {", "defer func() { _ = f.Close() }()", "if err = visWriteHTML(f, tb.Name(), s.visBits); err != nil {",
     "tb.Logf(\"failed to write debugvis file %v: %v\", name, err)", "}", "}", "}", "return buf, err", "}"] := by rfl

/-- `panicToError` re-read from /repo statement by statement: the traceback of a failure is made of *every* frame between the panic and `checkOnce` — function and line, inlined functions included (S186 dropped the frames without a `Func`) —: it is what `accept` and `checkTB` compare as "the same failure site" (the model's `site`) -/
theorem panicToError_body_source : Rapid.Generated.body_panicToError =
    ["{", "if p == nil {", "return nil", "}", "callers := make([]uintptr, tracebackLen)",
     "callers = callers[:runtime.Callers(skip, callers)]", "frames := runtime.CallersFrames(callers)",
     "b := &strings.Builder{}", "f, more, skipSpecial := runtime.Frame{}, true, true",
     "for more && !strings.HasSuffix(f.Function, tracebackStop) {", "f, more = frames.Next()",
     "if skipSpecial && (tracebackBlacklist[f.Function] || strings.HasPrefix(f.Function, runtimePrefix)) {",
     "continue", "}", "skipSpecial = false",
     "_, err := fmt.Fprintf(b, \"    %s:%d in %s\\n\", f.File, f.Line, f.Function)", "assert(err == nil)", "}",
     "return &testError{", "data:\t\tp,", "traceback:\tb.String(),", "}", "}"] := by rfl

/-- `traceback` re-read from /repo statement by statement -/
theorem traceback_body_source : Rapid.Generated.body_traceback =
    ["{", "if err == nil {", "return \"    <no error>\\n\"", "}", "return err.traceback", "}"] := by rfl

/-- `sameError` re-read from /repo statement by statement: same message and same traceback -/
theorem sameError_body_source : Rapid.Generated.body_sameError =
    ["{", "return errorString(err1) == errorString(err2) && traceback(err1) == traceback(err2)", "}"] := by rfl

/-- the number of frames `panicToError` looks at (`tracebackLen`, re-read from /repo): a failure site is the innermost 32 frames —
    two call sites of the property that reach the same statement through fewer frames than that are different sites (S204 halved it) -/
theorem traceback_len_source : Rapid.Generated.c_tracebackLen = 32 := rfl

end Rapid.C05
