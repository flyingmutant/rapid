/-
  RapidProofs.PruneLiteral — the loop of the literal `prune()` (`Rec.pruneGo`, i.e. `removeGroup` applied to every discarded
  group in list order) on the group list of a recording laid out from a forest: what it leaves is `Forest.lfin`.
  With `RunForest` (the recording of a run is a laid-out forest, and so is what the token-based prune keeps) this gives
  `literal_prune_of_run`: the literal `prune()` of the model — the loop over `removeGroup` that `TranslatedPruneEq` proves
  equal to the source's — stops at its closing assertion or leaves the data and the finished groups of `prunedOfToks`,
  which is what the theorems about replay and shrinking talk about.
-/
import RapidProofs.RunForest

namespace Rapid
open Forest

/-- kept words among the first `k` -/
def kp (m : List Bool) (k : Nat) : Nat := (m.take k).count true

/-- the end of an enclosing group after `prune`: the kept words before it -/
def shEnd (m : List Bool) (o : Nat) (h : GI) : GI :=
  if h.end_ ≤ (o : Int) then h else { h with end_ := ((o + kp m (h.end_.toNat - o) : Nat) : Int) }

theorem kp_zero (m : List Bool) : kp m 0 = 0 := by simp [kp]

theorem kp_cons_true (m : List Bool) (k : Nat) : kp (true :: m) (1 + k) = 1 + kp m k := by simp [kp, Nat.add_comm 1]

theorem kp_replicate_append (b : Nat) (m : List Bool) (j : Nat) : kp (List.replicate b false ++ m) (b + j) = kp m j := by
  simp only [kp, List.take_append, List.length_replicate, List.count_append, Nat.add_sub_cancel_left]
  rw [List.take_of_length_le (by simp)]
  simp [List.count_replicate]

theorem kp_append_length (m1 m2 : List Bool) : kp (m1 ++ m2) m1.length = m1.count true := by
  simp [kp]

theorem kmask_count (f : Forest) : f.kmask.count true = f.psize := by
  induction f with
  | nil => rfl
  | w _ _ ih | opn _ _ _ ih => simp [kmask, ih]
  | grp l s b d t ihb iht => cases d <;> simp [kmask, ihb, iht, List.count_replicate]

theorem fin_length (f : Forest) : ∀ p q, (f.fin p).length = (f.fin q).length := by
  induction f with
  | nil => intro p q; rfl
  | w u t ih => intro p q; exact ih _ _
  | grp l s b d t ihb iht => intro p q; simp only [fin, List.length_cons, List.length_append]; rw [ihb p q, iht (p + b.size) (q + b.size)]
  | opn l s t ih => intro p q; simp only [fin, List.length_cons]; rw [ih p q]

theorem removeGroup_at (pre : List GI) (dpre : List UInt64) (l : String) (s : Bool) (b t : Forest) (d : Bool) :
    Rec.removeGroup ⟨dpre ++ (b.words ++ t.words),
        pre ++ ⟨l, s, dpre.length, ((dpre.length + b.size : Nat) : Int), d⟩ :: (b.fin dpre.length ++ t.fin (dpre.length + b.size))⟩ pre.length =
      some ⟨dpre ++ t.words,
        pre.map (shiftG ⟨l, s, dpre.length, ((dpre.length + b.size : Nat) : Int), d⟩) ++ (t.strip true).fin dpre.length⟩ := by
  have hrest : ∀ R : List GI, (pre ++ ⟨l, s, dpre.length, ((dpre.length + b.size : Nat) : Int), d⟩ :: R).drop (pre.length + 1) = R :=
    fun R => by rw [← List.drop_drop, List.drop_left]; rfl
  have hdrop : ∀ (p : GI → Bool) (l : List GI), l.drop (l.takeWhile p).length = l.dropWhile p := fun p l => by
    have := List.drop_left' (l₁ := l.takeWhile p) (l₂ := l.dropWhile p) rfl
    rwa [List.takeWhile_append_dropWhile] at this
  have hget : ∀ (g : GI) (R : List GI), (pre ++ g :: R)[pre.length]? = some g := fun g R => by simp
  rw [removeGroup_def, hget, Option.bind_some, if_pos (by simp [Forest.size]; omega)]
  dsimp only
  rw [← List.drop_drop, hdrop, Int.toNat_natCast, List.take_left, ← List.append_assoc dpre, List.drop_left' (by simp [Forest.size]),
    List.take_left, hrest, List.dropWhile_append_of_pos (fun e he => by simpa using (fin_mem b _ e he).2.2),
    fin_dropWhile _ t _ true (Nat.le_refl _) (iff_of_true rfl rfl), List.map_append, fin_shift _ (Nat.le_refl _)]

/-- a group in front of the rest of the list: finished before it, unfinished, or enclosing a top-level part of it -/
def POK (F : Forest) (o : Nat) (h : GI) : Prop :=
  h.begin ≤ o ∧ (h.end_ ≤ (o : Int) ∨ ∃ k : Nat, h.end_ = ((o + k : Nat) : Int) ∧ F.Bnd k)

theorem shEnd_of_le {m : List Bool} {o : Nat} {h : GI} (hle : h.end_ ≤ (o : Int)) : shEnd m o h = h := if_pos hle

theorem shEnd_at {m : List Bool} {o k : Nat} {h : GI} (hk : h.end_ = ((o + k : Nat) : Int)) :
    shEnd m o h = { h with end_ := ((o + kp m k : Nat) : Int) } := by
  unfold shEnd
  by_cases h0 : k = 0
  · subst h0
    rw [if_pos (by rw [hk]; omega), kp_zero]
    cases h; simp only at hk; subst hk; rfl
  · rw [if_neg (by rw [hk]; omega)]
    rw [hk, Int.toNat_natCast, Nat.add_sub_cancel_left]

theorem shEnd_nil {o : Nat} {h : GI} (hp : POK .nil o h) : shEnd [] o h = h :=
  shEnd_of_le (hp.2.elim id fun ⟨k, hk, (h0 : k = 0)⟩ => by omega)

theorem POK.mono {F F' : Forest} {o : Nat} {h : GI} (hB : ∀ k, F.Bnd k → F'.Bnd k) (hp : POK F o h) : POK F' o h :=
  ⟨hp.1, hp.2.imp id fun ⟨k, hk, hb⟩ => ⟨k, hk, hB k hb⟩⟩

theorem pok_done {F : Forest} {m m' : List Bool} {o o' : Nat} {h : GI} (hb : h.begin ≤ o) (he : h.end_ ≤ (o : Int)) (ho : o ≤ o') :
    POK F o' h ∧ shEnd m' o' h = shEnd m o h :=
  ⟨⟨Nat.le_trans hb ho, Or.inl (by omega)⟩, by rw [shEnd_of_le he, shEnd_of_le (by omega)]⟩

/-- `F` begins with `c` words (a word: `c = 1`; a group: the size of its body) and goes on with `t` -/
theorem POK.block {F t : Forest} {c o : Nat} {h : GI} (hF : ∀ k, F.Bnd k → k = 0 ∨ (c ≤ k ∧ t.Bnd (k - c))) (hp : POK F o h) :
    h.end_ ≤ (o : Int) ∨ ∃ j : Nat, h.end_ = ((o + (c + j) : Nat) : Int) ∧ t.Bnd j := by
  rcases hp.2 with h1 | ⟨k, hk, hb⟩
  · exact .inl h1
  · rcases hF k hb with h0 | ⟨h1, hbt⟩
    · exact .inl (by omega)
    · obtain ⟨j, rfl⟩ := Nat.exists_eq_add_of_le h1
      exact .inr ⟨j, hk, by rwa [Nat.add_sub_cancel_left] at hbt⟩

theorem pok_w {u : UInt64} {t : Forest} {o : Nat} {h : GI} (hp : POK (.w u t) o h) :
    POK t (o + 1) h ∧ shEnd t.kmask (o + 1) h = shEnd (true :: t.kmask) o h := by
  rcases hp.block (fun _ => id) with h1 | ⟨j, hk, hbt⟩
  · exact pok_done hp.1 h1 (Nat.le_succ o)
  · have hk' : h.end_ = ((o + 1 + j : Nat) : Int) := by omega
    exact ⟨⟨Nat.le_succ_of_le hp.1, .inr ⟨j, hk', hbt⟩⟩, by rw [shEnd_at hk', shEnd_at hk, kp_cons_true, Nat.add_assoc]⟩

theorem pok_self (l : String) (s : Bool) (b t : Forest) (o : Nat) :
    POK (b.app t) o ⟨l, s, o, ((o + b.size : Nat) : Int), false⟩ :=
  ⟨Nat.le_refl _, Or.inr ⟨b.size, rfl, bnd_app b t 0 (bnd_zero t)⟩⟩

theorem pok_disc {l : String} {s : Bool} {b t : Forest} {o : Nat} {h : GI} (hp : POK (.grp l s b true t) o h) :
    POK t o (shiftG ⟨l, s, o, ((o + b.size : Nat) : Int), true⟩ h) ∧
      shEnd t.kmask o (shiftG ⟨l, s, o, ((o + b.size : Nat) : Int), true⟩ h) = shEnd (List.replicate b.size false ++ t.kmask) o h := by
  rcases hp.block (fun _ => id) with h1 | ⟨j, hk, hbt⟩
  · rw [shiftG_before hp.1 h1]
    exact pok_done hp.1 h1 (Nat.le_refl o)
  · rw [shiftG_around hp.1 (by omega)]
    have hend : h.end_ - (b.size : Int) = ((o + j : Nat) : Int) := by omega
    exact ⟨⟨hp.1, .inr ⟨j, hend, hbt⟩⟩, by rw [shEnd_at hend, shEnd_at hk, kp_replicate_append]⟩

theorem pruneGo_end (f : Nat) (r : Rec) : Rec.pruneGo (f + 1) r.groups.length r = some r := by
  rw [Rec.pruneGo, List.getElem?_eq_none (Nat.le_refl _)]

theorem pruneGo_step (f : Nat) (d : List UInt64) (pre R : List GI) (g : GI) :
    Rec.pruneGo (f + 1) pre.length ⟨d, pre ++ g :: R⟩ =
      if g.discard then (Rec.removeGroup ⟨d, pre ++ g :: R⟩ pre.length).bind (Rec.pruneGo f pre.length)
      else Rec.pruneGo f (pre ++ [g]).length ⟨d, pre ++ [g] ++ R⟩ := by
  rw [Rec.pruneGo]
  simp

/-- **the literal `prune` loop on a laid-out forest**: started at the first group of the rest, it ends with the data that
    survives and the list `lfin` describes; the groups in front only have their ends moved.  In the modes other than `off`
    the loop has just removed a group, and the scan of `removeGroup` has dropped its share of the rest already (`stripM`). -/
theorem pruneGo_lfin (F : Forest) (m : Mode) (pre : List GI) (dpre : List UInt64) (fuel : Nat)
    (hpre : ∀ h ∈ pre, POK F dpre.length h) (hf : (F.fin dpre.length).length < fuel) :
    Rec.pruneGo fuel pre.length ⟨dpre ++ F.words, pre ++ (F.stripM m).fin dpre.length⟩ =
      some ⟨dpre ++ F.pwords, pre.map (shEnd F.kmask dpre.length) ++ F.lfin dpre.length m⟩ := by
  -- by the number of nodes: behind the entry of a kept group the rest is `b.app t`, no subterm
  induction hn : F.nodes using Nat.strongRecOn generalizing F m pre dpre fuel with
  | _ n ih =>
  subst hn
  cases fuel with
  | zero => exact absurd hf (Nat.not_lt_zero _)
  | succ f =>
  cases F with
  | nil =>
    have : Forest.nil.stripM m = .nil := by cases m <;> rfl
    rw [this]
    simp only [Forest.fin, Forest.words, Forest.pwords, Forest.lfin, Forest.kmask, List.append_nil]
    rw [pruneGo_end f ⟨dpre, pre⟩, List.map_congr_left (fun h hh => shEnd_nil (hpre h hh)), List.map_id']
  | w u t =>
    have := ih _ (Nat.lt_succ_self _) t m.word pre (dpre ++ [u]) (f + 1)
    rw [List.length_append, List.length_singleton] at this
    rw [stripM_w]
    simp only [Forest.fin, Forest.words, Forest.pwords, Forest.lfin, Forest.kmask]
    rw [List.append_cons dpre u, this (fun h hh => (pok_w (hpre h hh)).1) hf rfl,
      List.map_congr_left (fun h hh => (pok_w (hpre h hh)).2)]
    simp
  | opn l s t =>
    by_cases hm : m = .off
    · subst hm
      have hg0 : POK t dpre.length ⟨l, s, dpre.length, -1, false⟩ := ⟨Nat.le_refl _, Or.inl (by simp only; omega)⟩
      simp only [Forest.stripM, Forest.fin, Forest.words, Forest.pwords, Forest.lfin, Forest.kmask, if_true]
      rw [pruneGo_step, if_neg (by simp)]
      have := ih _ (Nat.lt_succ_self _) t .off _ dpre f (List.forall_mem_append.mpr ⟨hpre, List.forall_mem_singleton.mpr hg0⟩)
        (Nat.lt_of_succ_lt_succ hf) rfl
      rw [Forest.stripM] at this
      rw [this, List.map_append, List.map_singleton, shEnd_of_le (by simp only; omega)]
      simp
    · -- the scan has dropped the entry
      rw [stripM_opn, if_neg hm, Forest.lfin, if_neg hm]
      exact ih _ (Nat.lt_succ_self _) t m pre dpre (f + 1) hpre (Nat.lt_of_succ_lt hf) rfl
  | grp l s b d t =>
    have hft : (t.fin dpre.length).length < f := by
      have := Nat.lt_of_succ_lt_succ hf
      rw [List.length_append, fin_length t _ dpre.length] at this
      omega
    rw [stripM_grp, Forest.lfin]
    by_cases hc : m = .atB ∧ b.size = 0
    · -- the scan has dropped the empty group
      rw [if_pos hc, if_pos hc]
      have := ih _ (by simp only [Forest.nodes]; omega) t .atB pre dpre (f + 1)
        (fun h hh => (hpre h hh).mono fun _ => bnd_grp_empty hc.2) (Nat.lt_succ_of_lt hft) rfl
      simp only [Forest.words, Forest.pwords, Forest.kmask, words_of_size_zero b hc.2, pwords_of_size_zero b hc.2,
        kmask_of_size_zero b hc.2, hc.2, List.replicate_zero, ite_self, List.nil_append]
      exact this
    · rw [if_neg hc, if_neg hc]
      cases d
      · -- a kept group joins the groups in front; its body and what follows it are the rest
        have hself : shEnd (b.kmask ++ t.kmask) dpre.length ⟨l, s, dpre.length, ((dpre.length + b.size : Nat) : Int), false⟩ =
            ⟨l, s, dpre.length, ((dpre.length + b.psize : Nat) : Int), false⟩ := by
          rw [shEnd_at (k := b.size) rfl, ← kmask_length b, kp_append_length, kmask_count]
        have := ih _ (by simp only [Forest.nodes, nodes_app]; omega) (b.app t) .off _ dpre f
          (List.forall_mem_append.mpr ⟨fun h hh => (hpre h hh).mono fun _ => bnd_grp_app, List.forall_mem_singleton.mpr (pok_self l s b t _)⟩)
          (by rw [fin_app]; exact Nat.lt_of_succ_lt_succ hf) rfl
        rw [Forest.stripM, fin_app, words_app, pwords_app, kmask_app, lfin_app] at this
        simp only [Forest.fin, Forest.words, Forest.pwords, Forest.kmask, if_false, Bool.false_eq_true]
        rw [pruneGo_step, if_neg (by simp), this, List.map_append, List.map_singleton, hself]
        simp
      · -- a discarded group is removed; the scan of `removeGroup` starts at the end of its data
        have := ih _ (by simp only [Forest.nodes]; omega) t .atB
          (pre.map (shiftG ⟨l, s, dpre.length, ((dpre.length + b.size : Nat) : Int), true⟩)) dpre f
          (fun h hh => by obtain ⟨h0, hh0, rfl⟩ := List.mem_map.mp hh; exact (pok_disc (hpre h0 hh0)).1) hft rfl
        rw [Forest.stripM, List.length_map, List.map_map, Function.comp_def] at this
        simp only [Forest.fin, Forest.words, Forest.pwords, Forest.kmask, if_true]
        rw [pruneGo_step, if_pos rfl, removeGroup_at, Option.bind_some, this,
          List.map_congr_left (fun h hh => (pok_disc (hpre h hh)).2)]
        simp

theorem pruneGo_forest : ∀ (n : Nat) (F : Forest), F.nodes ≤ n → F.WFne → ∀ (pre : List GI) (dpre : List UInt64) (fuel : Nat),
    (∀ h ∈ pre, POK F dpre.length h) → (F.fin dpre.length).length < fuel →
    Rec.pruneGo fuel pre.length ⟨dpre ++ F.words, pre ++ F.fin dpre.length⟩ =
      some ⟨dpre ++ F.pwords, pre.map (shEnd F.kmask dpre.length) ++ F.lfin dpre.length .off⟩ :=
  fun _ F _ _ pre dpre fuel => pruneGo_lfin F .off pre dpre fuel

theorem lfin_filter (F : Forest) : F.WFne → ∀ o m,
    (F.lfin o m).filter (fun g => decide (g.end_ ≥ 0)) = (F.tfin o).filter (fun g => decide (g.end_ ≥ 0)) := by
  induction F with
  | nil => intro _ o m; rfl
  | w u t ih => intro hw o m; exact ih hw _ _
  | grp l s b d t ihb iht =>
    intro hw o m
    rw [Forest.lfin, Forest.tfin]
    cases d with
    | true => rw [if_pos rfl, if_pos rfl, ite_self]; exact iht hw.2.1 _ _
    | false =>
      -- a kept group is not empty: the scan has not dropped it
      have := hw.2.2 rfl
      rw [if_neg (by omega), if_neg Bool.false_ne_true, if_neg Bool.false_ne_true, List.filter_cons, List.filter_cons,
        List.filter_append, List.filter_append, ihb hw.1, iht hw.2.1]
  | opn l s t ih =>
    intro hw o m
    rw [Forest.lfin, Forest.tfin, List.filter_cons_of_neg Bool.false_ne_true]
    split
    · rw [List.filter_cons_of_neg Bool.false_ne_true]; exact ih hw _ _
    · exact ih hw _ _

/-- **the literal `prune()` on a laid-out forest**: it stops at its closing assertion exactly when the token-based list has
    an empty group; otherwise it leaves the words that survive and the list `lfin` -/
theorem prune_forest (F : Forest) (hwf : F.WFne) :
    (⟨F.words, F.fin 0⟩ : Rec).prune =
      if (⟨F.pwords, F.tfin 0⟩ : Rec).noEmptyGroup then some ⟨F.pwords, F.lfin 0 .off⟩ else none := by
  have hgo := pruneGo_lfin F .off [] [] _ (fun _ hh => nomatch hh) (Nat.lt_succ_self _)
  simp only [List.nil_append, List.length_nil, List.map_nil, Forest.stripM] at hgo
  -- an unfinished entry is never empty, and the finished ones are the same in both lists
  have hall : ∀ l : List GI, l.all (fun g => (g.begin : Int) != g.end_) =
      (l.filter fun g => decide (g.end_ ≥ 0)).all (fun g => (g.begin : Int) != g.end_) := fun l => by
    rw [List.all_filter]
    exact List.all_congr rfl fun g => by
      by_cases h0 : g.end_ ≥ 0 <;> simp [h0]
      omega
  unfold Rec.prune Rec.noEmptyGroup
  simp only [hgo]
  rw [hall (F.lfin 0 .off), lfin_filter F hwf 0 .off, ← hall]

/-- **the literal `prune()` and the token-based one agree on every recording of a run**: if the token-based pruned
    recording has no empty group (the closing assertion of `prune()`), the literal `Rec.prune` of the recording
    succeeds, and it leaves the same data and the same finished groups.  (The two group lists differ only in
    unfinished entries that directly follow a removed group in the list: `removeGroup` drops them.) -/
theorem literal_prune_of_run (p : Prog) (src : Src) (ts : TS)
    (hne : (prunedOfToks (p.run src ts).toks).noEmptyGroup = true) :
    ∃ r', (recOfToks (p.run src ts).toks).prune = some r' ∧ r'.finished = (prunedOfToks (p.run src ts).toks).finished := by
  obtain ⟨F, hrep, hwf, _⟩ := run_rep p src ts
  rw [prunedOfToks_rep hrep] at hne ⊢
  rw [recOfToks_rep hrep, prune_forest F hwf, if_pos hne]
  exact ⟨_, rfl, by simp only [Rec.finished, lfin_filter F hwf 0 .off]⟩

end Rapid
