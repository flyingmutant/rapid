/-
  RapidProofs.ScriptExec — running a `Script` (a pass of the shrinker: `get` the shrinker's state, `try_` a candidate)
  against an arbitrary shrinker: a state `σ`, what a pass can see of it, and what `accept` answers.  `Script.run p`
  (RapidModel/Passes.lean) is the instance for rapid's `accept` on a property `p`.

  `Agree` is the relation between a pass as translated from the source (`Go.SM`: a script whose result is a value or
  a Go panic) and the hand-written pass of the model: they ask the same questions in the same states and end in the
  same state — unless the translated loop ran out of fuel, which is a deadline cut (any prefix of a pass is a legal run).
-/
import RapidModel.GoScript

namespace Rapid

open Rapid.Go

structure Oracle (σ : Type) where
  view : σ → View
  accept : σ → List UInt64 → Option (Bool × σ)     -- `none`: accept does not return (it panics with the mismatch)

inductive Res (σ α : Type) where
  | done (a : α) (s : σ)
  | oob (s : σ)                            -- an index or slice expression out of range
  | stop (s : σ) (buf : List UInt64)       -- `accept` did not return on `buf` in state `s`

def Script.exec {σ α : Type} (o : Oracle σ) : Script α → σ → Res σ α
  | .ret a, s => .done a s
  | .get k, s => (k (o.view s)).exec o s
  | .try_ buf k, s =>
    match o.accept s buf with
    | none => .stop s buf
    | some (b, s') => (k b).exec o s'
  | .oob, s => .oob s

def Res.bind {σ α β : Type} (r : Res σ α) (f : α → σ → Res σ β) : Res σ β :=
  match r with
  | .done a s => f a s
  | .oob s => .oob s
  | .stop s b => .stop s b

@[simp] theorem Res.bind_done {σ α β : Type} (a : α) (s : σ) (f : α → σ → Res σ β) : (Res.done a s).bind f = f a s := rfl
@[simp] theorem Res.bind_oob {σ α β : Type} (s : σ) (f : α → σ → Res σ β) : (Res.oob s : Res σ α).bind f = .oob s := rfl
@[simp] theorem Res.bind_stop {σ α β : Type} (s : σ) (b : List UInt64) (f : α → σ → Res σ β) :
    (Res.stop s b : Res σ α).bind f = .stop s b := rfl

@[simp] theorem Script.exec_bind {σ α β : Type} (o : Oracle σ) (x : Script α) (f : α → Script β) (s : σ) :
    (x >>= f).exec o s = (x.exec o s).bind fun a s' => (f a).exec o s' := by
  show (x.bind f).exec o s = _
  induction x generalizing s with
  | ret a => rfl
  | get k ih => exact ih _ s
  | try_ buf k ih =>
    simp only [Script.bind, Script.exec]
    cases o.accept s buf with
    | none => rfl
    | some r => exact ih _ _
  | oob => rfl

@[simp] theorem Script.exec_pure {σ α : Type} (o : Oracle σ) (a : α) (s : σ) : (pure a : Script α).exec o s = .done a s := rfl
@[simp] theorem Script.exec_ret {σ α : Type} (o : Oracle σ) (a : α) (s : σ) : (Script.ret a : Script α).exec o s = .done a s := rfl
@[simp] theorem Script.exec_getV {σ : Type} (o : Oracle σ) (s : σ) : getV.exec o s = .done (o.view s) s := rfl
@[simp] theorem Script.exec_oobS {σ α : Type} (o : Oracle σ) (s : σ) : (oobS : Script α).exec o s = .oob s := rfl
@[simp] theorem Script.exec_orOob_some {σ α : Type} (o : Oracle σ) (a : α) (s : σ) : (orOob (some a)).exec o s = .done a s := rfl
@[simp] theorem Script.exec_orOob_none {σ α : Type} (o : Oracle σ) (s : σ) : (orOob (none : Option α)).exec o s = .oob s := rfl
theorem Script.exec_tryBuf {σ : Type} (o : Oracle σ) (buf : List UInt64) (s : σ) :
    (tryBuf buf).exec o s = match o.accept s buf with | none => .stop s buf | some (b, s') => .done b s' := by
  simp only [tryBuf, Script.exec]

def SM.exec {σ α : Type} (o : Oracle σ) (x : SM α) (s : σ) : Res σ (Except Panic α) := Script.exec o x s

def Res.bindE {σ α β : Type} (r : Res σ (Except Panic α)) (f : α → σ → Res σ (Except Panic β)) : Res σ (Except Panic β) :=
  match r with
  | .done (.ok a) s => f a s
  | .done (.error e) s => .done (.error e) s
  | .oob s => .oob s
  | .stop s b => .stop s b

@[simp] theorem Res.bindE_ok {σ α β : Type} (a : α) (s : σ) (f : α → σ → Res σ (Except Panic β)) :
    (Res.done (.ok a) s : Res σ (Except Panic α)).bindE f = f a s := rfl
@[simp] theorem Res.bindE_error {σ α β : Type} (e : Panic) (s : σ) (f : α → σ → Res σ (Except Panic β)) :
    (Res.done (.error e) s : Res σ (Except Panic α)).bindE f = .done (.error e) s := rfl
@[simp] theorem Res.bindE_stop {σ α β : Type} (s : σ) (b : List UInt64) (f : α → σ → Res σ (Except Panic β)) :
    (Res.stop s b : Res σ (Except Panic α)).bindE f = .stop s b := rfl

theorem Res.bindE_assoc {σ α β γ : Type} (r : Res σ (Except Panic α)) (f : α → σ → Res σ (Except Panic β))
    (g : β → σ → Res σ (Except Panic γ)) : (r.bindE f).bindE g = r.bindE fun a s => (f a s).bindE g := by
  cases r with
  | done x s => cases x <;> rfl
  | oob s => rfl
  | stop s b => rfl

theorem Res.bind_assoc {σ α β γ : Type} (r : Res σ α) (f : α → σ → Res σ β) (g : β → σ → Res σ γ) :
    (r.bind f).bind g = r.bind fun a s => (f a s).bind g := by
  cases r <;> rfl

@[simp] theorem SM.exec_bind {σ α β : Type} (o : Oracle σ) (x : SM α) (f : α → SM β) (s : σ) :
    SM.exec o (x >>= f) s = (SM.exec o x s).bindE fun a s' => SM.exec o (f a) s' := by
  refine (Script.exec_bind o x _ s).trans ?_
  unfold SM.exec
  cases Script.exec o x s with
  | done r s' => cases r <;> rfl
  | oob s' => rfl
  | stop s' b => rfl

@[simp] theorem SM.exec_pure {σ α : Type} (o : Oracle σ) (a : α) (s : σ) : SM.exec o (pure a : SM α) s = .done (.ok a) s := rfl
@[simp] theorem SM.exec_ofM {σ α : Type} (o : Oracle σ) (x : M α) (s : σ) : SM.exec o (SM.ofM x) s = .done x s := rfl
@[simp] theorem SM.exec_fuel {σ α : Type} (o : Oracle σ) (s : σ) : SM.exec o (SM.fuel : SM α) s = .done (.error .fuel) s := rfl
@[simp] theorem SM.exec_data {σ : Type} (o : Oracle σ) (s : σ) : SM.exec o SM.data s = .done (.ok (o.view s).rc.data) s := rfl
@[simp] theorem SM.exec_groups {σ γ : Type} (o : Oracle σ) (conv : GI → γ) (s : σ) :
    SM.exec o (SM.groups conv) s = .done (.ok ((o.view s).rc.groups.map conv)) s := rfl
@[simp] theorem SM.exec_shrinks {σ : Type} (o : Oracle σ) (s : σ) :
    SM.exec o SM.shrinks s = .done (.ok (Int64.ofNat (o.view s).shrinks)) s := rfl
theorem SM.exec_accept {σ : Type} (o : Oracle σ) (buf : List UInt64) (s : σ) :
    SM.exec o (SM.accept buf) s = match o.accept s buf with | none => .stop s buf | some (b, s') => .done (.ok b) s' := by
  simp only [SM.exec, SM.accept, Script.exec]

@[simp] theorem SM.exec_andThen {σ : Type} (o : Oracle σ) (a b : SM Bool) (s : σ) :
    SM.exec o (SM.andThen a b) s = (SM.exec o a s).bindE fun x s' => if x then SM.exec o b s' else .done (.ok false) s' := by
  unfold SM.andThen
  rw [SM.exec_bind]
  congr 1; funext x s'; cases x <;> rfl

@[simp] theorem SM.exec_orElse {σ : Type} (o : Oracle σ) (a b : SM Bool) (s : σ) :
    SM.exec o (SM.orElse a b) s = (SM.exec o a s).bindE fun x s' => if x then .done (.ok true) s' else SM.exec o b s' := by
  unfold SM.orElse
  rw [SM.exec_bind]
  congr 1; funext x s'; cases x <;> rfl

@[simp] theorem SM.exec_ite {σ α : Type} (o : Oracle σ) (c : Bool) (x y : SM α) (s : σ) :
    SM.exec o (if c then x else y) s = if c then SM.exec o x s else SM.exec o y s := by
  cases c <;> rfl

/-- what the translated script and the model's script, run from the same state, came to: a deadline cut (the translated
    loops ran out of fuel) agrees with anything; otherwise both end in the same way in the same state, with related values -/
def Agree {σ α β : Type} (R : α → β → Prop) : Res σ (Except Panic α) → Res σ β → Prop
  | .done (.error .fuel) _, _ => True
  | .done (.ok a) s, .done b s' => s = s' ∧ R a b
  | .done (.error .runtime) s, .oob s' => s = s'
  | .stop s b, .stop s' b' => s = s' ∧ b = b'
  | _, _ => False

theorem Agree.fuel {σ α β : Type} (R : α → β → Prop) (s : σ) (r : Res σ β) :
    Agree R (.done (.error .fuel) s : Res σ (Except Panic α)) r := trivial

theorem Agree.done {σ α β : Type} {R : α → β → Prop} {a : α} {b : β} (s : σ) (h : R a b) :
    Agree R (.done (.ok a) s : Res σ (Except Panic α)) (.done b s) := ⟨rfl, h⟩

theorem Agree.oob {σ α β : Type} (R : α → β → Prop) (s : σ) :
    Agree R (.done (.error .runtime) s : Res σ (Except Panic α)) (.oob s : Res σ β) := rfl

theorem Agree.stop {σ α β : Type} (R : α → β → Prop) (s : σ) (b : List UInt64) :
    Agree R (.stop s b : Res σ (Except Panic α)) (.stop s b : Res σ β) := ⟨rfl, rfl⟩

theorem Agree.elim {σ α β : Type} {R : α → β → Prop} {rt : Res σ (Except Panic α)} {rm : Res σ β}
    {motive : Res σ (Except Panic α) → Res σ β → Prop} (h : Agree R rt rm)
    (fuel : ∀ s, motive (.done (.error .fuel) s) rm)
    (done : ∀ a b s, R a b → motive (.done (.ok a) s) (.done b s))
    (oob : ∀ s, motive (.done (.error .runtime) s) (.oob s))
    (stop : ∀ s b, motive (.stop s b) (.stop s b)) : motive rt rm := by
  unfold Agree at h
  split at h
  · exact fuel _
  · obtain ⟨rfl, r⟩ := h; exact done _ _ _ r
  · subst h; exact oob _
  · obtain ⟨rfl, rfl⟩ := h; exact stop _ _
  · exact h.elim

theorem Agree.bind {σ α β α' β' : Type} {R : α → β → Prop} {R' : α' → β' → Prop}
    {rt : Res σ (Except Panic α)} {rm : Res σ β}
    {ft : α → σ → Res σ (Except Panic α')} {fm : β → σ → Res σ β'}
    (h : Agree R rt rm) (hk : ∀ a b s, R a b → Agree R' (ft a s) (fm b s)) :
    Agree R' (rt.bindE ft) (rm.bind fm) :=
  h.elim (motive := fun rt rm => Agree R' (rt.bindE ft) (rm.bind fm))
    (fun s => Agree.fuel R' s _) (fun a b s r => hk a b s r) (fun s => Agree.oob R' s) (fun s b => Agree.stop R' s b)

theorem Agree.mono {σ α β : Type} {R R' : α → β → Prop} {rt : Res σ (Except Panic α)} {rm : Res σ β}
    (h : Agree R rt rm) (hr : ∀ a b, R a b → R' a b) : Agree R' rt rm :=
  h.elim (motive := fun rt rm => Agree R' rt rm)
    (fun s => Agree.fuel R' s _) (fun a b s r => Agree.done s (hr a b r)) (fun s => Agree.oob R' s) (fun s b => Agree.stop R' s b)

theorem Agree.accept {σ : Type} (o : Oracle σ) (buf : List UInt64) (s : σ) :
    Agree (fun (a b : Bool) => a = b) (SM.exec o (SM.accept buf) s) ((tryBuf buf).exec o s) := by
  rw [SM.exec_accept, Script.exec_tryBuf]
  cases o.accept s buf with
  | none => exact ⟨rfl, rfl⟩
  | some r => exact ⟨rfl, rfl⟩

end Rapid
