/-
  C13 — MakeFuzz is total and faithful on arbitrary bytes.
  Totality of `checkFuzz` in the model is by construction (every Lean function is total); that
  the CODE is total on arbitrary bytes is what the correspondence and the monitor exercise.
-/
import RapidModel.Generated.CallOrders
import RapidProofs.Once
import RapidProofs.TranslatedFuzzEq

namespace Rapid.C13

theorem wordsOfBytes_nil : wordsOfBytes [] = [] := by
  unfold wordsOfBytes; simp

theorem wordsOfBytes_cons (b : UInt8) (bs : List UInt8) :
    wordsOfBytes (b :: bs) = wordOfBytes ((b :: bs).take 8) :: wordsOfBytes ((b :: bs).drop 8) := by
  rw [wordsOfBytes]; simp

/-- `⌈n/8⌉` words -/
theorem words_length : ∀ (n : Nat) (bs : List UInt8), bs.length = n → (wordsOfBytes bs).length = (n + 7) / 8 := by
  rintro _ bs rfl
  fun_induction wordsOfBytes bs with
  | case1 => rfl
  | case2 bs hne ih =>
    have := List.length_pos_iff.mpr hne
    rw [List.length_cons, ih, List.length_drop]
    omega

/-- a word is the little-endian value of its bytes (the instance of two bytes) -/
theorem word_little_endian (b0 b1 : UInt8) : wordOfBytes [b0, b1] = b0.toUInt64 ||| (b1.toUInt64 <<< 8) := by
  simp [wordOfBytes]

/-- **faithful**: the fuzz target is the test case on the words of the input, with the
    outcome mapped `no error ↦ pass`, `invalid ↦ skip`, `anything else ↦ fail` -/
theorem faithful (p : Prog) (input : List UInt8) :
    checkFuzz p input =
      match (checkOnce p (.buf (wordsOfBytes input)) TS.fresh).err with
      | none => .pass
      | some e => if e.isInvalid then .skip else .fail e := rfl

/-- it fails iff the test case is falsified -/
theorem fails_iff_falsified (p : Prog) (input : List UInt8) (e : Err) :
    checkFuzz p input = .fail e ↔
      (checkOnce p (.buf (wordsOfBytes input)) TS.fresh).err = some e ∧ e.isInvalid = false := by
  rw [faithful]
  cases (checkOnce p (.buf (wordsOfBytes input)) TS.fresh).err with
  | none => simp
  | some e' =>
    cases hi : e'.isInvalid with
    | false =>
      simp only [hi, Bool.false_eq_true, if_false, FuzzOut.fail.injEq, Option.some.injEq]
      exact ⟨fun h => ⟨h, h ▸ hi⟩, And.left⟩
    | true =>
      simp only [hi, if_true, reduceCtorEq, Option.some.injEq, false_iff, not_and]
      rintro rfl; simp [hi]

/-- words the test case did not consume are irrelevant: the outcome on the recorded words
    followed by anything is the outcome on the recorded words -/
theorem unconsumed_words_irrelevant (p : Prog) (ws xs : List UInt64)
    (h : (checkOnce p (.buf ws) TS.fresh).overran = false) :
    (checkOnce p (.buf ((checkOnce p (.buf ws) TS.fresh).used ++ xs)) TS.fresh).err = (checkOnce p (.buf ws) TS.fresh).err := by
  rw [checkOnce_replay p (.buf ws) TS.fresh xs h]

example : wordsOfBytes [1, 2, 0, 0, 0, 0, 0, 0, 3] = [513, 3] := by
  simp only [wordsOfBytes_cons, wordsOfBytes_nil, wordOfBytes, List.take, List.drop]; decide

/-- `checkFuzz`: decode loop, fresh T on the buffer, one `checkOnce`, then the outcome switch -/
theorem checkFuzz_order_source :
    Rapid.Generated.order_checkFuzz = ["call tb.Helper", "stmt", "for", "call newT", "call checkOnce", "stmt"] := rfl

/-- **the statements of `checkFuzz` that turn the input bytes into the buffer of the bit stream, as translated
    from /repo's engine.go on every run, compute `wordsOfBytes`** — for every input (shorter than 2^63 bytes,
    as every Go slice is): the loop ends, nothing panics, and the buffer is the sequence of little-endian
    words of the input, the last one padded with zero bytes (a scratch array that keeps bytes of the previous
    word, a dropped tail, another byte order all change the translated loop and break this proof) -/
theorem source_fuzz_words (input : List UInt8) (fuel : Nat) (hsz : input.length < 2 ^ 63) (hf : input.length < fuel) :
    Rapid.Translated.checkFuzz_words input fuel = .ok (wordsOfBytes input) :=
  tr_checkFuzz_words input fuel hsz hf

/-- … hence the fuzz target decides by the test case on the words the **source** computes -/
theorem source_faithful (p : Prog) (input : List UInt8) (fuel : Nat) (ws : List UInt64)
    (hsz : input.length < 2 ^ 63) (hf : input.length < fuel)
    (hw : Rapid.Translated.checkFuzz_words input fuel = .ok ws) :
    checkFuzz p input =
      match (checkOnce p (.buf ws) TS.fresh).err with
      | none => .pass
      | some e => if e.isInvalid then .skip else .fail e := by
  rw [source_fuzz_words input fuel hsz hf] at hw
  cases hw
  rfl

example : Rapid.Translated.checkFuzz_words [1, 2, 0, 0, 0, 0, 0, 0, 3] 5 = .ok [513, 3] := by rfl

end Rapid.C13
