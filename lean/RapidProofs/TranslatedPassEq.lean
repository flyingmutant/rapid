/-
  RapidProofs.TranslatedPassEq — the passes of the shrinker (shrink.go: `removeGroups`, `lowerFloatHack`, `removeGroupsAndLower`,
  `sortGroups`, `removeGroupSpans`; the round loop of `shrinker.shrink`, given the same of `minimizeBlocks`, which is proved in
  TranslatedMinSEq) as translated from /repo on every run (RapidModel/Generated/Translated.lean, in `Go.SM`) **agree with the
  hand-written passes of the model** (RapidModel/Passes.lean) against every shrinker: whatever `accept` answers, both read the
  same state, propose the same candidates in the same order and end in the same state, both hit an index out of range in the
  same state, or the translated loop runs out of fuel (a deadline cut).  Assumed of the shrinker's states (`Oracle.WF`):
  recordings have fewer than 2^62 words and 2^61 groups (`Rec.Small`), a finished group does not end before it begins, and a
  rejected candidate leaves the recording as it is.
-/
import RapidProofs.SMLogic
import RapidProofs.TranslatedPruneEq

namespace Rapid
open Rapid.Go

/-- what the passes may assume of every state of the shrinker -/
structure Oracle.WF {σ : Type} (o : Oracle σ) : Prop where
  small : ∀ s, Rec.Small (o.view s).rc
  ordered : ∀ s, ∀ g ∈ (o.view s).rc.groups, 0 ≤ g.end_ → (g.begin : Int) ≤ g.end_
  reject : ∀ s buf s', o.accept s buf = some (false, s') → o.view s' = o.view s

theorem groupInfoOf_eq (g : GI) : Translated.groupInfoOf g = goOf g := rfl

namespace Oracle.WF
variable {σ : Type} {o : Oracle σ} (wf : o.WF) (s : σ)
include wf

theorem data_lt : (o.view s).rc.data.length < 2 ^ 63 := Nat.lt_trans (wf.small s).1 (by decide)

theorem groups_lt : (o.view s).rc.groups.length < 2 ^ 63 := Nat.lt_trans (wf.small s).2.1 (by decide)

theorem gsmall {g : GI} (h : g ∈ (o.view s).rc.groups) : g.Small := (wf.small s).2.2 g h

theorem succ_lt {i : Nat} (h : i < (o.view s).rc.groups.length) : i + 1 < 2 ^ 63 := Nat.lt_of_le_of_lt h (wf.groups_lt s)

/-- the head of `for i < len(s.rec.groups) { g := s.rec.groups[i]; … }`, the model having read the state -/
theorem groups_loop {α β γ : Type} {R : α → β → Prop} {i : Nat} (hi : i < 2 ^ 63)
    {c : GI → γ} {X : γ → SM α} {Y : SM α} {A : GI → Script β} {B : Script β}
    (hin : i < (o.view s).rc.groups.length → ∀ g ∈ (o.view s).rc.groups, g.Small → Agree R (SM.exec o (X (c g)) s) ((A g).exec o s))
    (hout : Agree R (SM.exec o Y s) (B.exec o s)) :
    Agree R
      (SM.exec o (SM.groups c >>= fun v => if decide (Int64.ofNat i < glen v) then
        SM.groups c >>= fun v => SM.ofM (Go.idx v (Int64.ofNat i)) >>= X else Y) s)
      ((if i < (o.view s).rc.groups.length then orOob (o.view s).rc.groups[i]? >>= A else B).exec o s) := by
  rw [SM.exec_groups_lt o s hi (wf.groups_lt s)]
  exact Agree.iteS (fun hlt => Agree.group_bind hi c fun g hg => hin hlt g hg (wf.gsmall s hg)) fun _ => hout

end Oracle.WF

section
variable {g : GI} (hg : g.Small)
include hg

/-- the test every pass starts with: not a standalone group, or one that was never closed -/
theorem gio_skip :
    (!(Translated.groupInfoOf g).standalone || decide ((Translated.groupInfoOf g).end_ < (0 : Int64))) =
      (!g.standalone || decide (g.end_ < 0)) :=
  congrArg (!g.standalone || ·) (I_lt (b := 0) hg.inI.2 ⟨by omega, by omega⟩)

/-- the test of `removeGroupsAndLower` for the lowered word `i` lying inside the group -/
theorem gio_inside {i : Nat} (hi : i < 2 ^ 63) :
    (decide (Int64.ofNat i ≥ (Translated.groupInfoOf g).begin) && decide (Int64.ofNat i < (Translated.groupInfoOf g).end_)) =
      (decide (g.begin ≤ i) && decide ((i : Int) < g.end_)) := by
  rw [← I_nat]
  exact congr (congrArg _ ((I_le hg.inI.1 (InI.nat hi)).trans (by simp only [Int.ofNat_le]))) (I_lt (InI.nat hi) hg.inI.2)

theorem gio_end_ne_begin7 :
    ((Translated.groupInfoOf g).end_ != (Translated.groupInfoOf g).begin + (7 : Int64)) = (g.end_ != (g.begin : Int) + 7) := by
  have := hg.1
  show (I g.end_ != I g.begin + I 7) = _
  rw [I_add]
  exact I_bne hg.inI.2 ⟨by omega, by omega⟩

theorem gio_toInt : (Translated.groupInfoOf g).begin.toInt = g.begin ∧ (Translated.groupInfoOf g).end_.toInt = g.end_ :=
  ⟨I_toInt hg.inI.1, I_toInt hg.inI.2⟩

theorem gio_back : giOf (Translated.groupInfoOf g) = g := by
  obtain ⟨hb, he⟩ := gio_toInt hg
  cases g
  simp only [giOf, hb, he, Int.toNat_natCast]
  rfl

theorem gio_gok (h0 : 0 ≤ g.end_) (hbe : (g.begin : Int) ≤ g.end_) : GOK (Translated.groupInfoOf g) := by
  obtain ⟨hb, he⟩ := gio_toInt hg
  have := hg.2.2
  refine ⟨?_, ?_, ?_⟩ <;> omega

end

theorem gio_begin_lt_end {h g : GI} (hh : h.Small) (hg : g.Small) :
    decide ((Translated.groupInfoOf h).begin < (Translated.groupInfoOf g).end_) = decide ((h.begin : Int) < g.end_) :=
  I_lt hh.inI.1 hg.inI.2

theorem not_skip {g : GI} (h : (!g.standalone || decide (g.end_ < 0)) = false) : 0 ≤ g.end_ := by
  simp only [Bool.or_eq_false_iff, decide_eq_false_iff_not] at h
  omega

theorem gio_begin_nat (g : GI) : (Translated.groupInfoOf g).begin = Int64.ofNat g.begin := I_nat g.begin

theorem gio_end_nat (g : GI) (h0 : 0 ≤ g.end_) : (Translated.groupInfoOf g).end_ = Int64.ofNat g.end_.toNat := by
  show I g.end_ = _
  rw [← I_nat, Int.toNat_of_nonneg h0]

/-- `g.begin + 3` and the like, the literal given as the natural number it is -/
theorem gio_begin_lit (g : GI) (k : Nat) (c : Int64) (hc : c = Int64.ofNat k) :
    (Translated.groupInfoOf g).begin + c = Int64.ofNat (g.begin + k) := by
  rw [hc, Int64.ofNat_add]; exact congrArg (· + Int64.ofNat k) (I_nat g.begin)

theorem Oracle.WF.without {σ : Type} {o : Oracle σ} (wf : o.WF) (s : σ) (data : List UInt64) (gs : List GI) (fuel : Nat)
    (hl : gs.length < 2 ^ 62) (hg : ∀ g ∈ gs, g ∈ (o.view s).rc.groups ∧ 0 ≤ g.end_) :
    Translated.without data (gs.map Translated.groupInfoOf) fuel = Go.ofOpt (without? data gs) ∨
      Translated.without data (gs.map Translated.groupInfoOf) fuel = .error .fuel := by
  have hS : ∀ g ∈ gs, g.Small := fun g hgm => wf.gsmall s (hg g hgm).1
  have h := (tr_without_fuel data (gs.map Translated.groupInfoOf) fuel
    (List.forall_mem_map.mpr fun g hgm => gio_gok (hS g hgm) (hg g hgm).2 (wf.ordered s g (hg g hgm).1 (hg g hgm).2))
    (by rw [List.length_map]; exact hl)).imp_right And.right
  have hb : (gs.map Translated.groupInfoOf).map giOf = gs := by
    rw [List.map_map]
    exact (List.map_congr_left fun g hgm => gio_back (hS g hgm)).trans (List.map_id gs)
  rwa [hb] at h

/-- the loop of a pass as translated (its counter an index) and the model's loop, run with `fuel` rounds against at least as many -/
def LoopAgree {σ : Type} (o : Oracle σ) (loopT : Nat → Int64 → SM Int64) (loopM : Nat → Nat → Script Unit) (fuel : Nat) : Prop :=
  ∀ (d i : Nat) (s : σ), i < 2 ^ 63 →
    Agree (fun _ _ => True) (SM.exec o (loopT fuel (Int64.ofNat i)) s) ((loopM (fuel + d) i).exec o s)

section
variable {σ : Type} {o : Oracle σ} {loopT : Nat → Int64 → SM Int64} {loopM : Nat → Nat → Script Unit}

theorem LoopAgree.all (h0 : ∀ i, loopT 0 i = SM.fuel)
    (step : ∀ fuel, LoopAgree o loopT loopM fuel → ∀ (d i : Nat) (s : σ), i < 2 ^ 63 →
      Agree (fun _ _ => True) (SM.exec o (loopT (fuel + 1) (Int64.ofNat i)) s) ((loopM (fuel + d + 1) i).exec o s)) :
    ∀ fuel, LoopAgree o loopT loopM fuel := by
  intro fuel
  induction fuel with
  | zero => intro d i s _; rw [h0]; exact Agree.fuel _ _ _
  | succ fuel ih => intro d i s hi; rw [Nat.add_right_comm]; exact step fuel ih d i s hi

theorem tr_pass (hloop : ∀ fuel, LoopAgree o loopT loopM fuel) (i : Nat) (hi : i < 2 ^ 63) {fuel fm : Nat} (h : fuel ≤ fm) (s : σ) :
    Agree (fun _ _ => True) (SM.exec o (loopT fuel (Int64.ofNat i) >>= fun _ => pure ()) s) ((loopM fm i).exec o s) := by
  obtain ⟨d, rfl⟩ := Nat.exists_eq_add_of_le h
  exact Agree.map (fun _ => ()) (hloop fuel d i s hi) fun _ _ _ => trivial

end

theorem lowerAt?_eq (d : List UInt64) (k : Nat) (fill : List Nat) :
    lowerAt? d k fill = d[k]? >>= fun x => setIdx? d k (x - 1) >>= fun d => fill.foldlM (fun d j => setIdx? d j maxU64) d := by
  unfold lowerAt?
  cases d[k]? <;> rfl

section
variable {σ α' β' : Type} {R' : α' → β' → Prop} {o : Oracle σ} {s : σ}

/-- `buf[j] = MaxUint64` for the `j`s of `fill`, then `f`: what the source writes out for `fill = [j₁, j₂, j₃]`, `[j₁, j₂]`, `[j₁]` -/
def fillS (f : List UInt64 → SM α') : List Nat → List UInt64 → SM α'
  | [], d => f d
  | j :: js, d => SM.ofM (Go.setIdx d (Int64.ofNat j) (fun _ => maxU64)) >>= fillS f js

theorem Agree.fill {f : List UInt64 → SM α'} {g : List UInt64 → Script β'} (fill : List Nat) (d : List UInt64)
    (hf : ∀ j ∈ fill, j < 2 ^ 63) (h : ∀ d', d'.length = d.length → Agree R' (SM.exec o (f d') s) ((g d').exec o s)) :
    Agree R' (SM.exec o (fillS f fill d) s) ((orOob (fill.foldlM (fun d j => setIdx? d j maxU64) d) >>= g).exec o s) := by
  induction fill generalizing d with
  | nil => exact h d rfl
  | cons j js ih =>
    obtain ⟨hj, hf⟩ := List.forall_mem_cons.mp hf
    rw [fillS, List.foldlM_cons, orOob_bind]
    refine Agree.ofM_bind (Or.inl (setIdx_const d hj maxU64)) fun d1 hd => ?_
    exact ih d1 hf fun d' hl => h d' (hl.trans (setIdx?_length hd).1)

/-- `buf[k] -= 1; buf[j] = MaxUint64 …` as the source does it, against `lowerAt?`; handing the candidate over the source reads
    `buf[k]` once more -/
theorem Agree.lower {k : Nat} {fill : List Nat} {d : List UInt64} {F : List UInt64 → SM α'} {g : List UInt64 → Script β'}
    (hf : ∀ j ∈ k :: fill, j < 2 ^ 63) (h : ∀ d', Agree R' (SM.exec o (F d') s) ((g d').exec o s)) :
    Agree R' (SM.exec o (SM.ofM (Go.idx d (Int64.ofNat k)) >>= fun e =>
        SM.ofM (Go.setIdx d (Int64.ofNat k) (fun _ => e - 1)) >>=
        fillS (fun buf => SM.ofM (Go.idx buf (Int64.ofNat k)) >>= fun _ => F buf) fill) s)
      ((orOob (lowerAt? d k fill) >>= g).exec o s) := by
  obtain ⟨hk, hf⟩ := List.forall_mem_cons.mp hf
  simp only [lowerAt?_eq, orOob_bind]
  refine Agree.ofM_bind (Or.inl (idx_ofNat d hk)) fun x _ => ?_
  refine Agree.ofM_bind (Or.inl (setIdx_const d hk _)) fun d1 hd => ?_
  refine Agree.fill fill d1 hf fun d' hl => ?_
  rw [SM.exec_idx_ok o s hk (List.getElem?_eq_getElem (by rw [hl, (setIdx?_length hd).1]; exact (setIdx?_length hd).2))]
  exact h d'

end

theorem idx_concat_last {α β : Type} (f : α → β) (gs : List α) (l : α) (hl : (gs ++ [l]).length < 2 ^ 63) :
    Go.idx ((gs ++ [l]).map f) (glen ((gs ++ [l]).map f) - 1) = .ok (f l) := by
  rw [List.length_append, List.length_singleton] at hl
  rw [glen_eq, List.length_map, List.length_append, List.length_singleton, i64_ofNat_pred, idx_ofNat _ (Nat.lt_of_succ_lt hl),
    List.getElem?_map, List.getElem?_concat_length]
  rfl

section
variable {σ : Type} {o : Oracle σ} (wf : o.WF)
include wf

theorem tr_removeGroups_loop : ∀ fuel, LoopAgree o Translated.shrinker_removeGroups_loop1 removeGroups fuel := by
  refine LoopAgree.all (fun _ => rfl) fun fuel ih d i s hi => ?_
  rw [Translated.shrinker_removeGroups_loop1, removeGroups]
  simp only [SM.andThen_pure_true, SM.bind_assoc, SM.ite_bind, SM.pure_bind, i64_ofNat_succ, Int64.sub_add_cancel]
  rw [Script.exec_getV_bind]
  refine wf.groups_loop s hi (fun hlt g hgm hgS => ?_) (Agree.done s trivial)
  rw [gio_skip hgS]
  refine Agree.iteB (fun _ => ih d (i + 1) s (wf.succ_lt s hlt)) (fun hskip => ?_)
  refine Agree.data_bind (wf.without s _ [g] fuel (show 1 < 2 ^ 62 by decide) (List.forall_mem_singleton.mpr ⟨hgm, not_skip hskip⟩)) fun buf _ => ?_
  refine Agree.accept_bind buf fun b s' _ => ?_
  cases b
  · exact ih d (i + 1) s' (wf.succ_lt s hlt)
  · exact ih d i s' hi

/-- the inner loop of `removeGroupsAndLower`; what it leaves in `i` is the index the outer loop goes on with, less one -/
theorem tr_rglInner (buf : List UInt64) {i : Nat} (hib : i < buf.length) (hi : i < 2 ^ 63) :
    ∀ (fuel j G : Nat) (s : σ), j ≤ (o.view s).rc.groups.length → (o.view s).rc.groups.length + 1 ≤ G + j →
      Agree (fun (t : Int64 × Int64) (b : Bool) => t.1 + 1 = Int64.ofNat (if b then i else i + 1))
        (SM.exec o (Translated.shrinker_removeGroupsAndLower_loop2 buf fuel (Int64.ofNat i) (Int64.ofNat j)) s)
        ((rglInner buf i G j).exec o s) := by
  intro fuel
  induction fuel with
  | zero => intro j G s _ _; exact Agree.fuel _ _ _
  | succ fuel ih =>
    intro j G s hj hG
    obtain _ | G' := G
    · omega
    rw [Translated.shrinker_removeGroupsAndLower_loop2, rglInner]
    simp only [SM.bind_assoc, SM.pure_bind, i64_ofNat_succ]
    rw [Script.exec_getV_bind]
    refine wf.groups_loop s (Nat.lt_of_le_of_lt hj (wf.groups_lt s)) (fun hlt g hgm hgS => ?_) (Agree.done s (i64_ofNat_succ i))
    rw [gio_skip hgS, gio_inside hgS hi]
    refine Agree.iteB (fun _ => ih (j + 1) G' s hlt (by omega)) (fun hskip => ?_)
    refine Agree.ofM_bind (wf.without s buf [g] fuel (show 1 < 2 ^ 62 by decide)
      (List.forall_mem_singleton.mpr ⟨hgm, not_skip (Bool.or_eq_false_iff.mp hskip).1⟩)) fun c _ => ?_
    rw [SM.exec_idx_ok o s hi (List.getElem?_eq_getElem hib)]
    refine Agree.accept_bind c fun b s' hacc => ?_
    cases b
    · have next := ih (j + 1) G' s'
      rw [wf.reject s c s' hacc] at next
      exact next hlt (by omega)
    · exact Agree.done s' (Int64.sub_add_cancel _ _)

theorem tr_removeGroupsAndLower_loop :
    ∀ fuel, LoopAgree o Translated.shrinker_removeGroupsAndLower_loop1 removeGroupsAndLower fuel := by
  refine LoopAgree.all (fun _ => rfl) fun fuel ih d i s hi => ?_
  rw [Translated.shrinker_removeGroupsAndLower_loop1, removeGroupsAndLower]
  simp only [SM.andThen_pure_true, SM.bind_assoc, SM.pure_bind, List.nil_append, i64_ofNat_succ]
  rw [SM.exec_data_lt o s hi (wf.data_lt s), Script.exec_getV_bind]
  refine Agree.iteS (fun hlt => ?_) (fun _ => Agree.done s trivial)
  have hi1 : i + 1 < 2 ^ 63 := Nat.lt_of_le_of_lt hlt (wf.data_lt s)
  refine Agree.data_bind (Or.inl (idx_ofNat _ hi)) fun x hx => ?_
  refine Agree.iteB (fun _ => ih d (i + 1) s hi1) (fun _ => ?_)
  rw [SM.exec_data_bind, SM.exec_idx_ok o s hi hx]
  refine Agree.ofM_bind (Or.inl (setIdx_const _ hi _)) fun buf hbuf => ?_
  have hib : i < buf.length := by rw [(setIdx?_length hbuf).1]; exact hlt
  rw [i64_zero_ofNat]
  refine Agree.bindS (tr_rglInner wf buf hib hi fuel 0 _ s (Nat.zero_le _) (Nat.le_refl _)) fun t b s' htb => ?_
  rw [htb]
  cases b
  · exact ih d (i + 1) s' hi1
  · exact ih d i s' hi

/-- the inner loop of `removeGroupSpans`: `gs ++ [l]` are the groups collected so far, all of the current recording and finished -/
theorem tr_spansInner (i : Nat) :
    ∀ (fuel j G : Nat) (gs : List GI) (l : GI) (s : σ),
      j ≤ (o.view s).rc.groups.length → (o.view s).rc.groups.length + 1 ≤ G + j →
      (∀ g ∈ gs ++ [l], g ∈ (o.view s).rc.groups ∧ 0 ≤ g.end_) → (gs ++ [l]).length ≤ j →
      Agree (fun (t : List Translated.groupInfo × Int64 × Int64) (b : Bool) => t.2.1 + 1 = Int64.ofNat (if b then i else i + 1))
        (SM.exec o (Translated.shrinker_removeGroupSpans_loop2 fuel ((gs ++ [l]).map Translated.groupInfoOf) (Int64.ofNat i) (Int64.ofNat j)) s)
        ((spansInner G (gs ++ [l]) l.end_ j).exec o s) := by
  intro fuel
  induction fuel with
  | zero => intro j G gs l s _ _ _ _; exact Agree.fuel _ _ _
  | succ fuel ih =>
    intro j G gs l s hj hG hgs hlen
    have hgl := (wf.small s).2.1
    obtain _ | G' := G
    · omega
    rw [Translated.shrinker_removeGroupSpans_loop2, spansInner]
    simp only [SM.orElse, SM.bind_assoc, SM.ite_bind, SM.pure_bind, ↓reduceIte, i64_ofNat_succ]
    rw [Script.exec_getV_bind]
    have hj63 := Nat.lt_of_le_of_lt hj (wf.groups_lt s)
    refine wf.groups_loop s hj63 (fun hlt h hhm hhS => ?_) (Agree.done s (i64_ofNat_succ i))
    have next := ih (j + 1) G' gs l s hlt (by omega) hgs (Nat.le_succ_of_le hlen)
    rw [gio_skip hhS]
    -- the source looks at the last group collected only if `h` is a finished standalone group
    cases hsk : (!h.standalone || decide (h.end_ < 0))
    · rw [if_neg Bool.false_ne_true, Bool.false_or, SM.exec_ofM_ok o s (idx_concat_last _ gs l (Nat.lt_of_le_of_lt hlen hj63)),
        gio_begin_lt_end hhS (wf.gsmall s (hgs l List.mem_concat_self).1)]
      refine Agree.iteB (fun _ => next) (fun _ => ?_)
      have hgs' : ∀ g ∈ gs ++ [l] ++ [h], g ∈ (o.view s).rc.groups ∧ 0 ≤ g.end_ :=
        List.forall_mem_append.mpr ⟨hgs, List.forall_mem_singleton.mpr ⟨hhm, not_skip hsk⟩⟩
      have hlen' : (gs ++ [l] ++ [h]).length ≤ j + 1 := by rw [List.length_append]; exact Nat.succ_le_succ hlen
      rw [show List.map Translated.groupInfoOf (gs ++ [l]) ++ [Translated.groupInfoOf h] = List.map Translated.groupInfoOf (gs ++ [l] ++ [h]) from
        (List.map_append (l₂ := [h])).symm]
      refine Agree.data_bind (wf.without s _ _ fuel (Nat.lt_of_le_of_lt hlen' (by omega)) hgs') fun c _ => ?_
      refine Agree.accept_bind c fun b s' hacc => ?_
      cases b
      · have next' := ih (j + 1) G' (gs ++ [l]) h s'
        rw [wf.reject s c s' hacc] at next'
        exact next' hlt (by omega) hgs' hlen'
      · exact Agree.done s' (Int64.sub_add_cancel _ _)
    · rw [if_pos rfl, Bool.true_or, if_pos rfl]
      exact next

theorem tr_removeGroupSpans_loop : ∀ fuel, LoopAgree o Translated.shrinker_removeGroupSpans_loop1 removeGroupSpans fuel := by
  refine LoopAgree.all (fun _ => rfl) fun fuel ih d i s hi => ?_
  rw [Translated.shrinker_removeGroupSpans_loop1, removeGroupSpans]
  simp only [SM.andThen_pure_true, SM.bind_assoc, SM.pure_bind, i64_ofNat_succ]
  rw [Script.exec_getV_bind]
  refine wf.groups_loop s hi (fun hlt g hgm hgS => ?_) (Agree.done s trivial)
  rw [gio_skip hgS]
  refine Agree.iteB (fun _ => ih d (i + 1) s (wf.succ_lt s hlt)) (fun hskip => ?_)
  refine Agree.bindS (tr_spansInner wf i fuel (i + 1) _ [] g s hlt (Nat.le_add_right _ _)
    (List.forall_mem_singleton.mpr ⟨hgm, not_skip hskip⟩) (Nat.le_add_left 1 i)) fun t b s' htb => ?_
  rw [htb]
  cases b
  · exact ih d (i + 1) s' (wf.succ_lt s hlt)
  · exact ih d i s' hi

theorem tr_lowerFloatHack_loop : ∀ fuel, LoopAgree o Translated.shrinker_lowerFloatHack_loop1 lowerFloatHack fuel := by
  refine LoopAgree.all (fun _ => rfl) fun fuel ih d i s hi => ?_
  rw [Translated.shrinker_lowerFloatHack_loop1, lowerFloatHack]
  simp only [SM.andThen_pure_true, SM.bind_assoc, SM.ite_bind, SM.pure_bind, List.nil_append, i64_ofNat_succ]
  rw [Script.exec_getV_bind]
  refine wf.groups_loop s hi (fun hlt g _ hgS => ?_) (Agree.done s trivial)
  have next := fun s' => ih d (i + 1) s' (wf.succ_lt s hlt)
  rw [gio_end_ne_begin7 hgS]
  refine Agree.iteB (fun _ => next s) (fun _ => ?_)
  have h3 : ∀ j ∈ [g.begin + 3, g.begin + 4, g.begin + 5, g.begin + 6], j < 2 ^ 63 := by
    have := hgS.1
    simp only [List.forall_mem_cons, List.not_mem_nil, false_imp_iff, implies_true, and_true]
    omega
  have h2 := (List.forall_mem_cons.mp h3).2
  have h1 := (List.forall_mem_cons.mp h2).2
  simp only [gio_begin_lit g 3 3 rfl, gio_begin_lit g 4 4 rfl, gio_begin_lit g 5 5 rfl, gio_begin_lit g 6 6 rfl]
  -- the exponent, then (if that was rejected) the significand, then the fraction, as shrink.go labels the three candidates
  rw [SM.exec_data_bind]
  refine Agree.lower (fill := [_, _, _]) h3 fun d3 => ?_
  refine Agree.accept_bind d3 fun a s1 _ => ?_
  refine Agree.iteB (fun _ => ?_) (fun _ => next s1)
  rw [Script.exec_getV_bind, SM.exec_data_bind]
  refine Agree.lower (fill := [_, _]) h2 fun d2 => ?_
  refine Agree.accept_bind d2 fun a s2 _ => ?_
  refine Agree.iteB (fun _ => ?_) (fun _ => next s2)
  rw [Script.exec_getV_bind, SM.exec_data_bind]
  refine Agree.lower (fill := [_]) h1 fun d1 => ?_
  exact Agree.accept_bind d1 fun a s3 _ => next s3

/-- the scan of `sortGroups` for a group to swap `g` with: `for j--; j >= 0; j--`; it ends at the index where a swap was accepted,
    or at -1 -/
theorem tr_sortScan {g : GI} (hgS : g.Small) (hg0 : 0 ≤ g.end_) (j_ : Int64) :
    ∀ (fuel n : Nat) (s : σ), n < 2 ^ 63 →
      Agree (fun (t : Int64) (b : Option Nat) => match b with | some j' => t = Int64.ofNat j' ∧ j' < 2 ^ 63 | none => t = Int64.ofNat 0 - 1)
        (SM.exec o (Translated.shrinker_sortGroups_loop3 (Translated.groupInfoOf g) j_ fuel (Int64.ofNat n - 1)) s)
        ((sortScan g n).exec o s) := by
  intro fuel
  induction fuel with
  | zero => intro n s _; exact Agree.fuel _ _ _
  | succ fuel ih =>
    intro n s hn
    cases n with
    | zero =>
      rw [Translated.shrinker_sortGroups_loop3, sortScan, i64_negOne_not_nonneg, if_neg Bool.false_ne_true]
      exact Agree.done s rfl
    | succ j =>
      have hj : j < 2 ^ 63 := Nat.lt_of_succ_lt hn
      rw [Translated.shrinker_sortGroups_loop3, sortScan, i64_ofNat_pred, i64_ofNat_nonneg hj, if_pos rfl, Script.exec_getV_bind]
      simp only [List.nil_append]
      refine Agree.group_bind hj _ fun h hhm => ?_
      have hhS := wf.gsmall s hhm
      rw [gio_skip hhS, gio_begin_lt_end hgS hhS]
      refine Agree.iteB (fun _ => ih j s hj) (fun hskip => ?_)
      have hh0 : 0 ≤ h.end_ := not_skip (Bool.or_eq_false_iff.mp (Bool.or_eq_false_iff.mp hskip).1).1
      rw [gio_begin_nat, gio_begin_nat, gio_end_nat g hg0, gio_end_nat h hh0]
      simp only [swapBuf?, orOob_bind, orOob_pure]
      refine Agree.data_bind (Or.inl (sliceTo_slice? _ hhS.begin_lt)) fun s8 _ => ?_
      refine Agree.data_bind (Or.inl (slice_slice? _ hgS.begin_lt hgS.end_lt)) fun s10 _ => ?_
      refine Agree.data_bind (Or.inl (slice_slice? _ hhS.end_lt hgS.begin_lt)) fun s12 _ => ?_
      refine Agree.data_bind (Or.inl (slice_slice? _ hhS.begin_lt hhS.end_lt)) fun s14 _ => ?_
      refine Agree.data_bind (Or.inl (sliceFrom_slice? _ hgS.end_lt)) fun s16 _ => ?_
      refine Agree.accept_bind _ fun a s' _ => ?_
      cases a
      · exact ih j s' hj
      · exact Agree.done s' ⟨rfl, hj⟩

/-- `for j := i; j > 0 && j < len(s.rec.groups); { … }` of `sortGroups` -/
theorem tr_sortFrom : ∀ fuel, LoopAgree o Translated.shrinker_sortGroups_loop2 sortFrom fuel := by
  refine LoopAgree.all (fun _ => rfl) fun fuel ih d j s hj => ?_
  rw [Translated.shrinker_sortGroups_loop2, sortFrom]
  simp only [SM.andThen, SM.bind_assoc, SM.ite_bind, SM.pure_bind, Bool.false_eq_true, ↓reduceIte]
  rw [i64_ofNat_pos hj, Script.exec_getV_bind, ite_and]
  refine Agree.iteP (fun _ => ?_) (fun _ => Agree.done s trivial)
  refine wf.groups_loop s hj (fun _ g _ hgS => ?_) (Agree.done s trivial)
  rw [gio_skip hgS]
  refine Agree.iteB (fun _ => Agree.done s trivial) (fun hskip => ?_)
  refine Agree.bindS (tr_sortScan wf hgS (not_skip hskip) (Int64.ofNat j) fuel j s hj) fun t b s' htb => ?_
  cases b with
  | some j' => obtain ⟨rfl, hj'⟩ := htb; exact ih d j' s' hj'
  | none =>
    -- the scan ended at -1, where the source's next test `j > 0` ends the loop
    subst htb
    cases fuel with
    | zero => exact Agree.fuel _ _ _
    | succ fuel =>
      rw [Translated.shrinker_sortGroups_loop2, i64_negOne_not_pos]
      exact Agree.done s' trivial

theorem tr_sortGroups_loop : ∀ fuel, LoopAgree o Translated.shrinker_sortGroups_loop1 sortGroups fuel := by
  refine LoopAgree.all (fun _ => rfl) fun fuel ih d i s hi => ?_
  rw [Translated.shrinker_sortGroups_loop1, sortGroups]
  simp only [SM.andThen_pure_true, SM.bind_assoc, SM.pure_bind, i64_ofNat_succ]
  rw [SM.exec_groups_lt o s hi (wf.groups_lt s), Script.exec_getV_bind]
  refine Agree.iteS (fun hlt => ?_) (fun _ => Agree.done s trivial)
  exact Agree.bindS (tr_sortFrom wf fuel (d + 1) i s hi) fun _ _ s' _ => ih d (i + 1) s' (wf.succ_lt s hlt)

end

theorem tr_removeGroups {σ : Type} (o : Oracle σ) (wf : o.WF) (fuel fm : Nat) (h : fuel ≤ fm) (s : σ) :
    Agree (fun _ _ => True) (SM.exec o (Translated.shrinker_removeGroups fuel) s) ((removeGroups fm 0).exec o s) :=
  tr_pass (tr_removeGroups_loop wf) 0 (by decide) h s

theorem tr_lowerFloatHack {σ : Type} (o : Oracle σ) (wf : o.WF) (fuel fm : Nat) (h : fuel ≤ fm) (s : σ) :
    Agree (fun _ _ => True) (SM.exec o (Translated.shrinker_lowerFloatHack fuel) s) ((lowerFloatHack fm 0).exec o s) :=
  tr_pass (tr_lowerFloatHack_loop wf) 0 (by decide) h s

theorem tr_removeGroupsAndLower {σ : Type} (o : Oracle σ) (wf : o.WF) (fuel fm : Nat) (h : fuel ≤ fm) (s : σ) :
    Agree (fun _ _ => True) (SM.exec o (Translated.shrinker_removeGroupsAndLower fuel) s) ((removeGroupsAndLower fm 0).exec o s) :=
  tr_pass (tr_removeGroupsAndLower_loop wf) 0 (by decide) h s

theorem tr_sortGroups {σ : Type} (o : Oracle σ) (wf : o.WF) (fuel fm : Nat) (h : fuel ≤ fm) (s : σ) :
    Agree (fun _ _ => True) (SM.exec o (Translated.shrinker_sortGroups fuel) s) ((sortGroups fm 1).exec o s) :=
  tr_pass (tr_sortGroups_loop wf) 1 (by decide) h s

theorem tr_removeGroupSpans {σ : Type} (o : Oracle σ) (wf : o.WF) (fuel fm : Nat) (h : fuel ≤ fm) (s : σ) :
    Agree (fun _ _ => True) (SM.exec o (Translated.shrinker_removeGroupSpans fuel) s) ((removeGroupSpans fm 0).exec o s) :=
  tr_pass (tr_removeGroupSpans_loop wf) 0 (by decide) h s

/-- assumed of `minimizeBlocks` by the round loop; it is `tr_minimizeBlocks` of TranslatedMinSEq, which rests on `minimize` -/
def MinimizeBlocksAgree {σ : Type} (o : Oracle σ) : Prop :=
  ∀ (fuel fm : Nat) (s : σ), fuel ≤ fm →
    Agree (fun _ _ => True) (SM.exec o (Translated.shrinker_minimizeBlocks fuel) s) ((minimizeBlocks fm 0).exec o s)

theorem shrinks_gt (n : Nat) (hn : n < 2 ^ 62) (prev : Int) (h1 : -1 ≤ prev) (h2 : prev < 2 ^ 62) :
    decide (Int64.ofNat n > I prev) = decide ((n : Int) > prev) := by
  rw [← I_nat]; exact I_lt ⟨by omega, by omega⟩ (InI.nat (by omega))

theorem shrinks_beq (n m : Nat) (hn : n < 2 ^ 62) (hm : m < 2 ^ 62) : (Int64.ofNat n == Int64.ofNat m) = (n == m) :=
  (i64_ofNat_beq (by omega) (by omega)).trans (Bool.beq_eq_decide_eq n m).symm

/-- **the round loop of `shrinker.shrink`** -/
theorem tr_rounds {σ : Type} (o : Oracle σ) (wf : o.WF) (hsh : ∀ s, (o.view s).shrinks < 2 ^ 62) (hmb : MinimizeBlocksAgree o) (F : Nat) :
    ∀ (fuel r : Nat) (iT : Int64) (prev : Int) (s : σ), fuel ≤ r → fuel ≤ F → -1 ≤ prev → prev < 2 ^ 62 →
      Agree (fun _ _ => True)
        (SM.exec o (Translated.shrinker_shrink_loop1 fuel iT (I prev)) s)
        ((rounds F r prev).exec o s) := by
  intro fuel
  induction fuel with
  | zero => intro r iT prev s _ _ _ _; exact Agree.fuel _ _ _
  | succ fuel ih =>
    intro r iT prev s hr hF h1 h2
    obtain _ | r' := r
    · exact absurd hr (Nat.not_succ_le_zero fuel)
    have hF' : fuel ≤ F := Nat.le_of_succ_le hF
    have next := fun s' => ih r' (iT + 1) (o.view s).shrinks s' (Nat.le_of_succ_le_succ hr) hF' (by omega) (by have := hsh s; omega)
    rw [I_nat] at next
    rw [Translated.shrinker_shrink_loop1, rounds]
    simp only [SM.andThen_pure_true, SM.bind_assoc, SM.ite_bind, SM.pure_bind]
    rw [SM.exec_shrinks_bind, shrinks_gt _ (hsh s) prev h1 h2, Script.exec_getV_bind]
    refine Agree.iteP (fun _ => ?_) (fun _ => Agree.done s trivial)
    rw [SM.exec_shrinks_bind]
    refine Agree.bindS (tr_removeGroups o wf fuel F hF' s) fun _ _ s1 _ => ?_
    refine Agree.bindS (hmb fuel F s1 hF') fun _ _ s2 _ => ?_
    rw [SM.exec_shrinks_bind, Script.exec_getV_bind, shrinks_beq _ _ (hsh s2) (hsh s)]
    refine Agree.iteB (fun _ => ?_) (fun _ => next s2)
    refine Agree.bindS (tr_lowerFloatHack o wf fuel F hF' s2) fun _ _ s3 _ => ?_
    refine Agree.bindS (tr_removeGroupsAndLower o wf fuel F hF' s3) fun _ _ s4 _ => ?_
    refine Agree.bindS (tr_sortGroups o wf fuel F hF' s4) fun _ _ s5 _ => ?_
    exact Agree.bindS (tr_removeGroupSpans o wf fuel F hF' s5) fun _ _ s6 _ => next s6

end Rapid
