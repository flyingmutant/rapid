/-
  RapidProofs.Sim — lock-step simulation of two generator fragments in continuation-passing style.

  `Sim pT pM R`: from every bit source and `*T` state, either both fragments consume the same words,
  record the same tokens and hand on values `b`, `a` related by `R` — whatever the continuation —, or
  both end with the same error without calling the continuation.  Two uses:

    * `Uniform p := Sim p p Eq`: what a primitive does before it calls its continuation does not depend
      on the continuation.  Together with a contract (`Yields p P`) this gives `Sim p p (· = · ∧ P ·)`:
      the continuation is only ever called on values that satisfy the contract;
    * the translated source functions against the model (RapidProofs/TranslatedFloatEq.lean), where the
      two sides encode the values that leave a group differently.
-/
import RapidProofs.Fragment

namespace Rapid

def Sim {β α : Type} (pT : (β → Prog) → Prog) (pM : (α → Prog) → Prog) (R : β → α → Prop) : Prop :=
  ∀ (src : Src) (ts : TS),
    (∃ b a, R b a ∧ ∃ (src' : Src) (u kp : List UInt64) (tk : List Tok) (ov : Bool),
        (∀ k, (pT k).run src ts = ((k b).run src' ts).after u kp tk [] ov) ∧
        (∀ k, (pM k).run src ts = ((k a).run src' ts).after u kp tk [] ov)) ∨
    (∃ o : Out, (∃ e, o.res = .error e) ∧ (∀ k, (pT k).run src ts = o) ∧ (∀ k, (pM k).run src ts = o))

def Uniform {α : Type} (p : (α → Prog) → Prog) : Prop := Sim p p (fun b a => b = a)

theorem Sim.mono {β α : Type} {pT : (β → Prog) → Prog} {pM : (α → Prog) → Prog} {R R' : β → α → Prop}
    (h : Sim pT pM R) (hr : ∀ b a, R b a → R' b a) : Sim pT pM R' := by
  intro src ts
  rcases h src ts with ⟨b, a, hR, rest⟩ | h
  · exact Or.inl ⟨b, a, hr b a hR, rest⟩
  · exact Or.inr h

/-- `Sim` for fragments whose continuation takes three arguments (`genUintRange`, `genIntRange`) -/
def Sim3 {A B C A' B' C' : Type} (pT : (A → B → C → Prog) → Prog) (pM : (A' → B' → C' → Prog) → Prog)
    (R : A × B × C → A' × B' × C' → Prop) : Prop :=
  Sim (fun k => pT (fun a b c => k (a, b, c))) (fun k => pM (fun a b c => k (a, b, c))) R

section
variable {β α : Type} {pT : (β → Prog) → Prog} {pM : (α → Prog) → Prog} {R : β → α → Prop}

theorem Sim.ret {b : β} {a : α} (h : R b a) :
    Sim (fun k => k b) (fun k => k a) R := fun src _ =>
  Or.inl ⟨b, a, h, src, [], [], [], false, fun _ => (after_nil _).symm, fun _ => (after_nil _).symm⟩

theorem Sim.throw (R : β → α → Prop) (e : Err) :
    Sim (fun (_ : β → Prog) => Prog.throw e) (fun (_ : α → Prog) => Prog.throw e) R := fun _ _ =>
  Or.inr ⟨_, ⟨e, rfl⟩, fun _ => rfl, fun _ => rfl⟩

theorem Sim.ite {p1 p2 : (β → Prog) → Prog} {q1 q2 : (α → Prog) → Prog} (c : Prop) [Decidable c]
    (h1 : c → Sim p1 q1 R) (h2 : ¬ c → Sim p2 q2 R) :
    Sim (fun k => if c then p1 k else p2 k) (fun k => if c then q1 k else q2 k) R := by
  by_cases hc : c
  · simp only [hc, if_true]; exact h1 hc
  · simp only [hc, if_false]; exact h2 hc

theorem Sim.bind {β' α' : Type} {qT : β → (β' → Prog) → Prog} {qM : α → (α' → Prog) → Prog} {S : β' → α' → Prop}
    (hp : Sim pT pM R) (hq : ∀ b a, R b a → Sim (qT b) (qM a) S) :
    Sim (fun k => pT (fun b => qT b k)) (fun k => pM (fun a => qM a k)) S := by
  intro src ts
  rcases hp src ts with ⟨b, a, hR, src', u, kp, tk, ov, h1, h2⟩ | ⟨o, he, h1, h2⟩
  · rcases hq b a hR src' ts with ⟨b', a', hS, src'', u', kp', tk', ov', g1, g2⟩ | ⟨o, ⟨e, he⟩, g1, g2⟩
    · refine Or.inl ⟨b', a', hS, src'', u ++ u', kp ++ kp', tk ++ tk', ov || ov', fun k => ?_, fun k => ?_⟩
      · rw [h1, g1, after_after0]
      · rw [h2, g2, after_after0]
    · refine Or.inr ⟨o.after u kp tk [] ov, ⟨e, he⟩, fun k => ?_, fun k => ?_⟩
      · rw [h1, g1]
      · rw [h2, g2]
  · exact Or.inr ⟨o, he, fun k => h1 _, fun k => h2 _⟩

theorem Sim.runEq (h : Sim pT pM R) (k1 : β → Prog) (k2 : α → Prog)
    (hk : ∀ b a, R b a → ∀ src ts, (k1 b).run src ts = (k2 a).run src ts) (src : Src) (ts : TS) :
    (pT k1).run src ts = (pM k2).run src ts := by
  rcases h src ts with ⟨b, a, hR, src', u, kp, tk, ov, h1, h2⟩ | ⟨o, _, h1, h2⟩
  · rw [h1, h2, hk b a hR]
  · rw [h1, h2]

/-- a group around any body: the two bodies run in lock-step and hand their results to `.ret` under two encodings, which is
    what the group hands on -/
theorem Sim.group (l : String) (s : Bool) (hb : Sim pT pM R) (e1 : β → Val) (e2 : α → Val) {d1 d2 : Val → Bool}
    (hd : ∀ c c', R c c' → d1 (e1 c) = d2 (e2 c')) :
    Sim (fun k => .group l s (pT fun c => .ret (e1 c)) d1 k) (fun k => .group l s (pM fun c => .ret (e2 c)) d2 k)
      (fun v v' => ∃ c c', R c c' ∧ v = e1 c ∧ v' = e2 c') := by
  intro src ts
  rcases hb src ts with ⟨c, c', hR, src', u, kp, tk, ov, h1, h2⟩ | ⟨o, ⟨e, he⟩, h1, h2⟩
  · have r1 := fun k => group_run_ret (l := l) (s := s) (d := d1) (k := k) (h1 fun c => .ret (e1 c))
    have r2 := fun k => group_run_ret (l := l) (s := s) (d := d2) (k := k) (h2 fun c => .ret (e2 c))
    rw [hd c c' hR] at r1
    by_cases hc : d2 (e2 c') = true ∨ u ≠ []
    · simp only [if_pos hc] at r1 r2
      exact Or.inl ⟨e1 c, e2 c', ⟨c, c', hR, rfl, rfl⟩, src', u, _, _, ov, r1, r2⟩
    · simp only [if_neg hc] at r1 r2
      exact Or.inr ⟨_, ⟨_, rfl⟩, r1, r2⟩
  · refine Or.inr ⟨{ o with toks := .opn l s :: o.toks ++ [.abort] }, ⟨e, he⟩, fun k => ?_, fun k => ?_⟩
    · rw [group_run_error (e := e) (by rw [h1]; exact he), h1]
    · rw [group_run_error (e := e) (by rw [h2]; exact he), h2]

theorem Sim.congr_left {pT' : (β → Prog) → Prog} (hT : ∀ k src ts, (pT' k).run src ts = (pT k).run src ts) (h : Sim pT pM R) :
    Sim pT' pM R := by
  intro src ts
  rcases h src ts with ⟨b, a, hR, src', u, kp, tk, ov, h1, h2⟩ | ⟨o, he, h1, h2⟩
  · exact Or.inl ⟨b, a, hR, src', u, kp, tk, ov, fun k => by rw [hT, h1], h2⟩
  · exact Or.inr ⟨o, he, fun k => by rw [hT, h1], h2⟩

end

theorem Sim3.bind {A B C A' B' C' β' α' : Type} {pT : (A → B → C → Prog) → Prog} {pM : (A' → B' → C' → Prog) → Prog}
    {R : A × B × C → A' × B' × C' → Prop}
    {qT : A → B → C → (β' → Prog) → Prog} {qM : A' → B' → C' → (α' → Prog) → Prog} {S : β' → α' → Prop}
    (hp : Sim3 pT pM R) (hq : ∀ a b c a' b' c', R (a, b, c) (a', b', c') → Sim (qT a b c) (qM a' b' c') S) :
    Sim (fun k => pT (fun a b c => qT a b c k)) (fun k => pM (fun a b c => qM a b c k)) S :=
  Sim.bind (pT := fun k => pT (fun a b c => k (a, b, c))) (pM := fun k => pM (fun a b c => k (a, b, c)))
    (qT := fun x k => qT x.1 x.2.1 x.2.2 k) (qM := fun x k => qM x.1 x.2.1 x.2.2 k) hp
    (fun b a h => hq b.1 b.2.1 b.2.2 a.1 a.2.1 a.2.2 h)

theorem Sim.of_runEq {α : Type} {pT pM : (α → Prog) → Prog} (hT : ∀ k src ts, (pT k).run src ts = (pM k).run src ts)
    (hU : Uniform pM) : Sim pT pM (fun b a => b = a) :=
  Sim.congr_left hT hU

theorem Sim.and_yields {β α : Type} {pT : (β → Prog) → Prog} {pM : (α → Prog) → Prog} {R : β → α → Prop} {P : α → Prop}
    (h : Sim pT pM R) (hy : Yields pM P) (enc : α → Val) (hinj : ∀ a a', enc a = enc a' → a = a') :
    Sim pT pM (fun b a => R b a ∧ P a) := by
  intro src ts
  rcases h src ts with ⟨b, a, hR, src', u, kp, tk, ov, h1, h2⟩ | h
  · refine Or.inl ⟨b, a, ⟨hR, ?_⟩, src', u, kp, tk, ov, h1, h2⟩
    -- run `pM` with the continuation that returns the encoding: both accounts of that run end in `.ok (enc _)`
    rcases hy (fun a => .ret (enc a)) src ts with ⟨a', hP, _, _, _, _, _, _, heq⟩ | ⟨e, he, _⟩
    · rw [h2] at heq
      rw [hinj a a' (Except.ok.inj (congrArg Out.res heq))]; exact hP
    · rw [h2] at he; cases he
  · exact Or.inr h

end Rapid
