/-
  RapidProofs.PruneT — the pruned recording (`prunedOfToks`, = `rec.prune()` of a recording), for EVERY token sequence:
  every finished group lies inside the data (`RecWF`) — what the shrinker's passes rely on when they slice the data at
  group boundaries.  (That its data is the model's `kept` is `pruned_data`, in `RunForest`.)
-/
import RapidProofs.PassSafe

namespace Rapid

def Inside (n : Nat) (g : GI) : Prop := 0 ≤ g.end_ → g.begin ≤ g.end_.toNat ∧ g.end_.toNat ≤ n

theorem Inside.mono {n m : Nat} {g : GI} (h : Inside n g) (hnm : n ≤ m) : Inside m g :=
  fun h0 => ⟨(h h0).1, Nat.le_trans (h h0).2 hnm⟩

/-- the invariant of `pruneGoT` at group list `gs`, data length `n` and stack `st`.  The entry `(i, b)` on top of the
    stack names the `i`-th group, which begins at `b`; cutting the list back to `i` entries and the data to `b` words —
    what closing that group with `discard` does — gives a state that satisfies the invariant with the rest of the stack. -/
def PInv : List GI → Nat → List (Nat × Nat) → Prop
  | gs, n, [] => ∀ g ∈ gs, Inside n g
  | gs, n, (i, b) :: st =>
      b ≤ n ∧ ∃ A g B, gs = A ++ g :: B ∧ A.length = i ∧ g.begin = b ∧ PInv A b st ∧ ∀ h ∈ g :: B, Inside n h

/-- more data, and further groups inside it at the end of the list -/
theorem PInv.weaken {gs X : List GI} {n m : Nat} {st : List (Nat × Nat)} (h : PInv gs n st) (hnm : n ≤ m)
    (hX : ∀ g ∈ X, Inside m g) : PInv (gs ++ X) m st := by
  match st, h with
  | [], h => exact List.forall_mem_append.mpr ⟨fun g hg => (h g hg).mono hnm, hX⟩
  | _ :: _, ⟨hb, A, g, B, hgs, hi, hg, hA, hB⟩ =>
    exact ⟨Nat.le_trans hb hnm, A, g, B ++ X, by rw [hgs, List.append_assoc, List.cons_append], hi, hg, hA,
      List.forall_mem_append.mpr ⟨fun h hh => (hB h hh).mono hnm, hX⟩⟩

theorem PInv.mono {gs : List GI} {n m : Nat} {st : List (Nat × Nat)} (h : PInv gs n st) (hnm : n ≤ m) : PInv gs m st :=
  List.append_nil gs ▸ h.weaken hnm fun _ hg => nomatch hg

theorem PInv.pop {gs : List GI} {n : Nat} {e : Nat × Nat} {st : List (Nat × Nat)} (h : PInv gs n (e :: st)) : PInv gs n st := by
  obtain ⟨hb, A, g, B, rfl, _, _, hA, hB⟩ := h
  exact hA.weaken hb hB

theorem PInv.inside {gs : List GI} {n : Nat} : ∀ {st : List (Nat × Nat)}, PInv gs n st → ∀ g ∈ gs, Inside n g
  | [], h => h
  | _ :: _, h => h.pop.inside

theorem pinv_go : ∀ (ts : List Tok) (r : Rec) (st : List (Nat × Nat)), PInv r.groups r.data.length st → RecWF (pruneGoT ts r st)
  | [], _, _, h => h.inside
  | .w u :: ts, r, st, h => pinv_go ts _ st (h.mono (by simp))
  | .opn l s :: ts, r, st, h =>
    pinv_go ts _ _ ⟨Nat.le_refl _, r.groups, _, [], rfl, rfl, rfl, h, List.forall_mem_singleton.mpr (fun h0 => nomatch h0)⟩
  | .cls _ :: ts, r, [], h => pinv_go ts r [] h
  | .cls true :: ts, r, (i, b) :: st, ⟨hb, A, g, B, hgs, hi, _, hA, _⟩ =>
    pinv_go ts ⟨r.data.take b, r.groups.take i⟩ st (by
      rw [hgs, List.take_left' hi, List.length_take, Nat.min_eq_left hb]; exact hA)
  | .cls false :: ts, r, (i, b) :: st, ⟨hb, A, g, B, hgs, hi, hg, hA, hB⟩ =>
    have hg' : Inside r.data.length { g with end_ := r.data.length } := fun _ => by
      simp only [Int.toNat_natCast, hg]; exact ⟨hb, Nat.le_refl _⟩
    pinv_go ts { r with groups := r.groups.modify i fun g => { g with end_ := r.data.length } } st (by
      rw [hgs, List.modify_eq_take_drop, List.take_left' hi, List.drop_left' hi]
      exact hA.weaken hb (List.forall_mem_cons.mpr ⟨hg', (List.forall_mem_cons.mp hB).2⟩))
  | .abort :: ts, r, [], h => pinv_go ts r [] h
  | .abort :: ts, r, _ :: st, h => pinv_go ts r st h.pop

/-- **`prune()` leaves every finished group inside the data**, for every recording whatsoever -/
theorem prunedOfToks_wf (ts : List Tok) : RecWF (prunedOfToks ts) :=
  pinv_go ts .empty [] (fun _ hg => nomatch hg)

end Rapid
