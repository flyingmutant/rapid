/-
  RapidProofs.Bind — `Prog.bind` is sequencing (`run_bind`); the run of `p >>- f` by the outcome of `p` (`bind_run_error`,
  `bind_run_ok`); the value of `el >>- fun v => .ret (g v)` is a `g w` (`bind_ret_res`).
-/
import RapidProofs.Replay

namespace Rapid

def Out.andThen (o : Out) (f : Val → Prog) : Out :=
  match o.res with
  | .ok v => ((f v).run o.src o.ts).after o.used o.kept o.toks o.evs o.overran
  | .error _ => o

theorem andThen_after (o : Out) (f : Val → Prog) (u k : List UInt64) (t : List Tok) (e : List Ev) (ov : Bool) :
    (o.after u k t e ov).andThen f = (o.andThen f).after u k t e ov := by
  simp only [Out.andThen, after_res]
  cases o.res with
  | error e' => rfl
  | ok v => exact (after_after ..).symm

theorem andThen_toks (o : Out) (f : Val → Prog) (t : List Tok) (h : ∃ e, o.res = .error e) :
    ({ o with toks := t } : Out).andThen f = { o.andThen f with toks := t } := by
  obtain ⟨e, he⟩ := h
  simp [Out.andThen, he]

/- `run_bind` and `run_shift` (Isolation.lean) each relate two runs that are unfolded together, and the two inductions have one
   case tree: `draw` by what the source hands out; `group`, `catchInv`, `inner` by how the body ended — either its outcome,
   touched up, is the outcome of the whole, or the continuation runs after it (its hypothesis); the constructors with one
   continuation by its hypothesis at the `*T` they hand on. -/

theorem run_bind (p : Prog) : ∀ (f : Val → Prog) (src : Src) (ts : TS),
    (p.bind f).run src ts = (p.run src ts).andThen f := by
  induction p with
  | ret v => intro f src ts; exact (after_nil _).symm
  | throw e => intro f src ts; rfl
  | draw n k ih =>
    intro f src ts
    simp only [Prog.bind, Prog.run]
    cases src.next n with
    | none => rfl
    | some r => simp only [ih, andThen_after]
  | group l s b d k _ ihk =>
    intro f src ts
    simp only [Prog.bind, Prog.run]
    cases (b.run src ts).res with
    | error e => rfl
    | ok v =>
      dsimp only
      by_cases hc : (!d v && (b.run src ts).used.isEmpty) = true
      · rw [if_pos hc, if_pos hc]; rfl
      · rw [if_neg hc, if_neg hc, ihk, andThen_after]
  | catchInv b k _ ihk =>
    intro f src ts
    simp only [Prog.bind, Prog.run]
    cases hb : (b.run src ts).res with
    | ok v => simp only [ihk, andThen_after]
    | error e =>
      cases e with
      | invalid m => simp only [ihk, andThen_after]
      | stop _ _ | panic _ _ | fuel => simp only [Out.andThen, hb]
  | errorf _ k ih | emit _ k ih => intro f src ts; simp only [Prog.bind, Prog.run, ih, andThen_after]
  | failOnError site k ih =>
    intro f src ts
    simp only [Prog.bind, Prog.run]
    cases ts.failed with
    | some m => rfl
    | none => exact ih f src ts
  | tick k ih | cleanup _ k ih => intro f src ts; exact ih f src _
  | ctx k ih =>
    intro f src ts
    simp only [Prog.bind, Prog.run]
    cases ts.ctx <;> simp only [ih, andThen_after]
  | inner b k _ ihk =>
    intro f src ts
    simp only [Prog.bind, Prog.run]
    cases (cleanupPhase (b.run src TS.fresh).ts).err with
    | some e =>
      dsimp only
      cases (b.run src TS.fresh).res with
      | error e0 => by_cases hk : (e.isInvalid && !e0.isInvalid) = true <;> simp [Out.andThen, hk]
      | ok v => simp [Out.andThen]
    | none =>
      dsimp only
      cases (b.run src TS.fresh).res with
      | error e => rfl
      | ok v => simp only [ihk, andThen_after]

section
variable {p : Prog} {f : Val → Prog} {src : Src} {ts : TS}

theorem bind_run_error {e : Err} (h : (p.run src ts).res = .error e) : (p >>- f).run src ts = p.run src ts := by
  simp only [run_bind, Out.andThen, h]

theorem bind_run_ok {v : Val} (h : (p.run src ts).res = .ok v) :
    (p >>- f).run src ts = ((f v).run (p.run src ts).src (p.run src ts).ts).after (p.run src ts).used (p.run src ts).kept
      (p.run src ts).toks (p.run src ts).evs (p.run src ts).overran := by
  simp only [run_bind, Out.andThen, h]

theorem bind_ok_left {r : Val} (h : ((p >>- f).run src ts).res = .ok r) : ∃ v, (p.run src ts).res = .ok v := by
  cases hres : (p.run src ts).res with
  | error e => rw [bind_run_error hres, hres] at h; cases h
  | ok v => exact ⟨v, rfl⟩

theorem bind_res {r : Val} (h : ((p >>- f).run src ts).res = .ok r) :
    ∃ v src' ts', (p.run src ts).res = .ok v ∧ ((f v).run src' ts').res = .ok r := by
  obtain ⟨v, hv⟩ := bind_ok_left h
  rw [bind_run_ok hv, after_res] at h
  exact ⟨v, _, _, hv, h⟩
end

theorem ret_ok {v r : Val} {src : Src} {ts : TS} (h : ((Prog.ret v).run src ts).res = .ok r) : v = r := Except.ok.inj h

theorem bind_ret_res (el : Prog) (g : Val → Val) (src : Src) (ts : TS) (r : Val)
    (h : ((el >>- fun v => .ret (g v)).run src ts).res = .ok r) : ∃ w, g w = r := by
  obtain ⟨w, _, _, _, h2⟩ := bind_res h
  exact ⟨w, ret_ok h2⟩

theorem bind2_ret_res (kEl vEl : Prog) (g : Val → Val → Val) (src : Src) (ts : TS) (r : Val)
    (h : ((kEl >>- fun k => vEl >>- fun v => .ret (g k v)).run src ts).res = .ok r) : ∃ k v, g k v = r := by
  obtain ⟨k, _, _, _, h2⟩ := bind_res h
  obtain ⟨v, hv⟩ := bind_ret_res vEl (g k) _ _ r h2
  exact ⟨k, v, hv⟩

end Rapid
