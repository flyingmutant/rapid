/-
  RapidProofs.PassRefine — the shrinker with its passes (`RapidModel.Passes`) refines the
  abstract shrinker `shrinkWith`: whatever the passes do — in whatever order, however `minimize`
  steers them, wherever the fuel (= deadline) cuts them — the run is `shrinkWith` on the list
  of candidates it actually tried.  Every theorem about `shrinkWith` (C01, C05) therefore holds
  of the concrete shrinker.
-/
import RapidProofs.PruneT
import RapidProofs.Shrink

namespace Rapid

theorem checkOnce_pruned_data (p : Prog) (src : Src) (ts : TS) :
    (prunedOfToks (checkOnce p src ts).toks).data = (checkOnce p src ts).kept := by
  simp only [checkOnce]
  exact pruned_data p src _

def SS.shr (s : SS) : Shr := ⟨s.rc.data, s.err⟩

/-- the four things `shrinker.accept` can do, `r` being the run on the candidate.  Two exits of `SS.accept` are never taken:
    the second run is the first (`checkOnce` is a function), so `panic(err2)` is not reached, and the pruned recording is
    never larger than the candidate, so the assertion after `prune()` holds. -/
theorem SS.accept_cases (p : Prog) (s : SS) (buf : List UInt64) :
    let r := checkOnce p (.buf buf) TS.fresh
    (s.accept p buf = .ok (false, s) ∧ (compareData buf s.rc.data ≥ 0 ∨ s.cache.contains buf = true)) ∨
    (s.accept p buf = .ok (false, { s with cache := buf :: s.cache, log := buf :: s.log }) ∧
      compareData buf s.rc.data < 0 ∧ tbKey r.err ≠ tbKey s.err) ∨
    (s.accept p buf = .ok (true, { s with rc := prunedOfToks r.toks, err := r.err, shrinks := s.shrinks + 1, log := buf :: s.log }) ∧
      compareData buf s.rc.data < 0 ∧ s.cache.contains buf = false ∧ tbKey r.err = tbKey s.err) ∨
    (s.accept p buf = .error (.badRec (buf :: s.log)) ∧ (prunedOfToks r.toks).noEmptyGroup = false) := by
  have hle : ¬ compareData (prunedOfToks (checkOnce p (.buf buf) TS.fresh).toks).data buf > 0 := by
    rw [checkOnce_pruned_data]; exact Int.not_lt.mpr (checkOnce_kept_sle p buf TS.fresh)
  simp only [SS.accept]
  generalize checkOnce p (.buf buf) TS.fresh = r at hle ⊢
  by_cases hc : compareData buf s.rc.data ≥ 0
  · exact Or.inl ⟨if_pos hc, Or.inl hc⟩
  rw [if_neg hc]
  by_cases hcache : s.cache.contains buf = true
  · exact Or.inl ⟨if_pos hcache, Or.inr hcache⟩
  rw [if_neg hcache]
  by_cases htb : (tbKey r.err != tbKey s.err) = true
  · exact Or.inr (Or.inl ⟨if_pos htb, Int.not_le.mp hc, by simpa using htb⟩)
  have hsame : ¬ (!sameError r.err r.err) = true := by rw [sameError_refl]; nofun
  rw [if_neg htb, if_neg hle, if_neg hsame]
  cases hne : (prunedOfToks r.toks).noEmptyGroup
  · exact Or.inr (Or.inr (Or.inr ⟨rfl, rfl⟩))
  · exact Or.inr (Or.inr (Or.inl ⟨rfl, Int.not_le.mp hc, Bool.eq_false_iff.mpr hcache, by simpa using htb⟩))

theorem SS.accept_false {p : Prog} {s s' : SS} {buf : List UInt64} (h : s.accept p buf = .ok (false, s')) :
    (s' = s ∧ (compareData buf s.rc.data ≥ 0 ∨ s.cache.contains buf = true)) ∨
    (s' = { s with cache := buf :: s.cache, log := buf :: s.log } ∧
      tbKey (checkOnce p (.buf buf) TS.fresh).err ≠ tbKey s.err) := by
  rcases SS.accept_cases p s buf with ⟨e, h1⟩ | ⟨e, _, h1⟩ | ⟨e, _⟩ | ⟨e, _⟩ <;> rw [e] at h <;> cases h
  · exact Or.inl ⟨rfl, h1⟩
  · exact Or.inr ⟨rfl, h1⟩

theorem SS.accept_true {p : Prog} {s s' : SS} {buf : List UInt64} (h : s.accept p buf = .ok (true, s')) :
    s' = { s with rc := prunedOfToks (checkOnce p (.buf buf) TS.fresh).toks, err := (checkOnce p (.buf buf) TS.fresh).err,
                  shrinks := s.shrinks + 1, log := buf :: s.log } ∧
    compareData buf s.rc.data < 0 ∧ tbKey (checkOnce p (.buf buf) TS.fresh).err = tbKey s.err := by
  rcases SS.accept_cases p s buf with ⟨e, _⟩ | ⟨e, _⟩ | ⟨e, h1, _, h2⟩ | ⟨e, _⟩ <;> rw [e] at h <;> cases h
  exact ⟨rfl, h1, h2⟩

/-- `cs`: the candidates this call of `accept` logs, `[]` when `buf` is refused before anything runs (not smaller, or in
    the cache) and `[buf]` when it is run; `shrinkWith` on them does what the call did -/
theorem ss_accept_sim (p : Prog) (hP : PruneOK p) (s : SS) (buf : List UInt64) :
    ∃ b s1 cs, s.accept p buf = .ok (b, s1) ∧ s1.log = cs.reverse ++ s.log ∧
      ∀ rest, shrinkWith p s.shr (cs ++ rest) = shrinkWith p s1.shr rest := by
  rcases SS.accept_cases p s buf with ⟨h, _⟩ | ⟨h, hc, htb⟩ | ⟨h, hc, _, htb⟩ | ⟨_, hne⟩
  · exact ⟨_, _, [], h, rfl, fun _ => rfl⟩
  · refine ⟨_, _, [buf], h, rfl, fun rest => ?_⟩
    rw [List.singleton_append, shrinkWith, accept_eq, if_neg fun h => htb h.2]; rfl
  · refine ⟨_, _, [buf], h, rfl, fun rest => ?_⟩
    rw [List.singleton_append, shrinkWith, accept_eq, if_pos ⟨hc, htb⟩, ← checkOnce_pruned_data]; rfl
  · rw [hP buf] at hne; cases hne

/-- **refinement**: a script run is `shrinkWith` on the candidates it logged -/
theorem run_refines (p : Prog) (hP : PruneOK p) {α : Type} : ∀ (sc : Script α) (s : SS),
    (∃ a s' cands, sc.run p s = .ok (a, s') ∧ shrinkWith p s.shr cands = (s'.rc.data, s'.err) ∧
        s'.log = cands.reverse ++ s.log) ∨
    (∃ log, sc.run p s = .error (.oob log)) := by
  intro sc
  induction sc with
  | ret a => intro s; exact Or.inl ⟨a, s, [], rfl, rfl, rfl⟩
  | get k ih => intro s; exact ih _ s
  | oob => intro s; exact Or.inr ⟨s.log, rfl⟩
  | try_ buf k ih =>
    intro s
    obtain ⟨b, s1, cs, h1, h2, h3⟩ := ss_accept_sim p hP s buf
    simp only [Script.run, h1]
    rcases ih b s1 with ⟨a, s', cands, hr, hs, hl⟩ | ⟨log, hr⟩
    · exact Or.inl ⟨a, s', cs ++ cands, hr, (h3 cands).trans hs, by rw [hl, h2, List.reverse_append, List.append_assoc]⟩
    · exact Or.inr ⟨log, hr⟩

theorem run_safe (p : Prog) {α : Type} {r : Rec} {sc : Script α} (hs : Safe r sc) :
    ∀ s : SS, s.rc = r → RecWF r →
      (∀ log, sc.run p s ≠ .error (.oob log)) ∧ (∀ a s', sc.run p s = .ok (a, s') → RecWF s'.rc) := by
  induction hs with
  | ret r a =>
    rintro s rfl hr
    exact ⟨nofun, fun _ _ h => by cases h; exact hr⟩
  | get r k _ ih =>
    rintro s rfl hr
    exact ih s.shrinks s rfl hr
  | try_ r buf k _ _ ih1 ih2 =>
    rintro s rfl hr
    simp only [Script.run]
    rcases SS.accept_cases p s buf with ⟨h, _⟩ | ⟨h, _⟩ | ⟨h, _⟩ | ⟨h, _⟩ <;> simp only [h]
    · exact ih1 s rfl hr
    · exact ih1 _ rfl hr
    · exact ih2 _ (prunedOfToks_wf _) _ rfl (prunedOfToks_wf _)
    · exact ⟨nofun, nofun⟩

/-- **the shrinker with its passes**: started from a well-formed recording, it never indexes
    out of range, and its result is `shrinkWith` on the candidates it tried — for every fuel
    (= wherever the deadline cuts it) -/
theorem shrinkScript_run (p : Prog) (hP : PruneOK p) (F : Nat) (s : SS) (hr : RecWF s.rc) :
    ∃ s' cands, (shrinkScript F).run p s = .ok ((), s') ∧
      shrinkWith p s.shr cands = (s'.rc.data, s'.err) ∧ s'.log = cands.reverse ++ s.log ∧ RecWF s'.rc := by
  have hsafe := run_safe p (safe_shrinkScript F s.rc hr) s rfl hr
  rcases run_refines p hP (shrinkScript F) s with ⟨a, s', cands, h1, h2, h3⟩ | ⟨log, h⟩
  · exact ⟨s', cands, h1, h2, h3, hsafe.2 a s' h1⟩
  · exact absurd h (hsafe.1 log)

end Rapid
