/-
  RapidProofs.MinimizeExact — the model's `minimize` (RapidModel/Minimize.lean).  Exactness: for every threshold `θ ≤ u`,
  `minimize u (θ ≤ ·)` returns exactly `θ` — the passes before the binary search only keep `θ ≤ best`, the binary search
  on `[0, best)` finds `θ`.  Locality: `minimize u cond` asks `cond` only below `u`.  Both walk the loops once, through
  one family of lemmas over what each `accept` is assumed to do (`*_congr`).
-/
import RapidModel.Minimize
import RapidProofs.U64

namespace Rapid

def geCond (θ : UInt64) : UInt64 → Bool := fun x => decide (θ ≤ x)

theorem small_toNat : small.toNat = 5 := rfl

theorem MinSt.accept_of_ge {cond : UInt64 → Bool} {m : MinSt} {u : UInt64} (h : u ≥ m.best) : m.accept cond u = (m, false) := by
  rw [MinSt.accept, if_pos (Or.inl h)]

theorem accept_best (cond : UInt64 → Bool) (m : MinSt) (u : UInt64) :
    (m.accept cond u).1.best = if (m.accept cond u).2 then u else m.best := by
  rw [MinSt.accept]
  by_cases hg : u ≥ m.best ∨ u < small
  · rw [if_pos hg]; rfl
  · rw [if_neg hg]; cases cond u <;> rfl

theorem accept_keeps {cond : UInt64 → Bool} {m : MinSt} {u : UInt64} (P : UInt64 → Prop) (hm : P m.best)
    (hu : u < m.best → cond u = true → P u) : P (m.accept cond u).1.best := by
  rw [MinSt.accept]
  by_cases hg : u ≥ m.best ∨ u < small
  · rw [if_pos hg]; exact hm
  · rw [if_neg hg]
    cases hc : cond u
    · exact hm
    · exact hu (UInt64.not_le.mp fun h => hg (.inl h)) hc

theorem accept_best_le (cond : UInt64 → Bool) (m : MinSt) (u : UInt64) : (m.accept cond u).1.best ≤ m.best :=
  accept_keeps (· ≤ m.best) (UInt64.le_refl _) fun h _ => UInt64.le_of_lt h

/-! Every loop of the minimizer is built from `MinSt.accept`: if each `accept` gives the same answer under two conditions and
keeps a property `P` of `best`, so does every loop.  With `P := (· ≤ u)` this is locality (`minimize_congr`), with the two
conditions equal and `P := (θ ≤ ·)` it is the invariant of exactness. -/

section loops
variable {cond cond' : UInt64 → Bool} (P : UInt64 → Prop)
  (hacc : ∀ (m : MinSt) c, P m.best → m.accept cond c = m.accept cond' c ∧ P (m.accept cond c).1.best)
include hacc

theorem rShift_congr (n : Nat) (m : MinSt) (h : P m.best) : rShift cond n m = rShift cond' n m ∧ P (rShift cond n m).best := by
  induction n generalizing m with
  | zero => exact ⟨rfl, h⟩
  | succ n ih =>
    simp only [rShift]
    rw [← (hacc m _ h).1]
    split
    · exact ih _ (hacc m _ h).2
    · exact ⟨rfl, (hacc m _ h).2⟩

theorem unsetBits_congr (n : Nat) (m : MinSt) (h : P m.best) :
    unsetBits cond n m = unsetBits cond' n m ∧ P (unsetBits cond n m).best := by
  induction n generalizing m with
  | zero => exact ⟨rfl, h⟩
  | succ n ih =>
    simp only [unsetBits]
    rw [← (hacc m _ h).1]
    exact ih _ (hacc m _ h).2

theorem sortInner_congr (i : Nat) (hh : UInt64) (n j : Nat) (m : MinSt) (h : P m.best) :
    sortInner cond i hh n j m = sortInner cond' i hh n j m ∧ P (sortInner cond i hh n j m).best := by
  induction n generalizing j m with
  | zero => exact ⟨rfl, h⟩
  | succ n ih =>
    simp only [sortInner]
    by_cases hj : j < i
    · simp only [if_pos hj]
      by_cases hb : (m.best &&& (1 : UInt64) <<< j.toUInt64 == 0) = true
      · simp only [if_pos hb]
        rw [← (hacc m _ h).1]
        split
        · exact ⟨rfl, (hacc m _ h).2⟩
        · exact ih _ _ (hacc m _ h).2
      · simp only [if_neg hb]
        exact ih _ _ h
    · rw [if_neg hj, if_neg hj]
      exact ⟨rfl, h⟩

theorem sortBits_congr (n : Nat) (m : MinSt) (h : P m.best) :
    sortBits cond n m = sortBits cond' n m ∧ P (sortBits cond n m).best := by
  induction n generalizing m with
  | zero => exact ⟨rfl, h⟩
  | succ n ih =>
    simp only [sortBits]
    split
    · rw [← (sortInner_congr P hacc _ _ _ _ m h).1]
      exact ih _ (sortInner_congr P hacc _ _ _ _ m h).2
    · exact ih _ h

theorem binLoop_congr (n : Nat) (i j : UInt64) (m : MinSt) (h : P m.best) :
    binLoop cond n i j m = binLoop cond' n i j m ∧ P (binLoop cond n i j m).best := by
  induction n generalizing i j m with
  | zero => exact ⟨rfl, h⟩
  | succ n ih =>
    simp only [binLoop]
    by_cases hij : i < j
    · simp only [if_pos hij]
      rw [← (hacc m _ h).1]
      split
      · exact ih _ _ _ (hacc m _ h).2
      · exact ih _ _ _ (hacc m _ h).2
    · rw [if_neg hij, if_neg hij]
      exact ⟨rfl, h⟩

theorem binSearch_congr (m : MinSt) (h : P m.best) : binSearch cond m = binSearch cond' m ∧ P (binSearch cond m).best := by
  simp only [binSearch]
  rw [← (hacc m _ h).1]
  split
  · exact ⟨rfl, (hacc m _ h).2⟩
  · exact binLoop_congr P hacc _ _ _ _ (hacc m _ h).2

end loops

theorem accept_ge {θ u : UInt64} {m : MinSt} (hθ : small ≤ θ) (hu : u < m.best) (h : θ ≤ u) :
    m.accept (geCond θ) u = (⟨u, u :: m.probes⟩, true) := by
  rw [MinSt.accept, if_neg (not_or.mpr ⟨UInt64.not_le.mpr hu, UInt64.not_lt.mpr (UInt64.le_trans hθ h)⟩),
    show geCond θ u = true from decide_eq_true h]
  rfl

theorem accept_lt (θ : UInt64) (m : MinSt) (u : UInt64) (h : ¬ θ ≤ u) :
    ∃ m', m.accept (geCond θ) u = (m', false) ∧ m'.best = m.best := by
  rw [MinSt.accept]
  by_cases hg : u ≥ m.best ∨ u < small
  · rw [if_pos hg]; exact ⟨_, rfl, rfl⟩
  · rw [if_neg hg, show geCond θ u = false from decide_eq_false h]; exact ⟨_, rfl, rfl⟩

/-- the binary search on `[i, best]`, an interval that holds `θ` and is shorter than `2^fuel` -/
theorem binLoop_exact {θ : UInt64} (hθ : small ≤ θ) (fuel : Nat) (i : UInt64) (m : MinSt) (hi : i ≤ θ) (hj : θ ≤ m.best)
    (hw : m.best.toNat < i.toNat + 2 ^ fuel) : (binLoop (geCond θ) fuel i m.best m).best = θ := by
  induction fuel generalizing i m with
  | zero => exact UInt64.le_antisymm (UInt64.le_trans (UInt64.le_iff_toNat_le.mpr (Nat.le_of_lt_succ hw)) hi) hj
  | succ n ih =>
    simp only [binLoop]
    by_cases hlt : i < m.best
    · rw [if_pos hlt]
      obtain ⟨hl, hr⟩ := u64_mid_halves hlt hw
      have hmid := UInt64.lt_iff_toNat_lt.mpr (u64_mid_lt hlt)
      generalize i + (m.best - i) / 2 = mid at hl hr hmid ⊢
      by_cases hle : θ ≤ mid
      · rw [accept_ge hθ hmid hle]
        exact ih i ⟨mid, _⟩ hi hle hl
      · obtain ⟨m', he, hb⟩ := accept_lt θ m mid hle
        rw [he]
        rw [← hb] at hj hr ⊢
        exact ih _ m' (u64_succ_le (UInt64.not_le.mp hle)) hj hr
    · rw [if_neg hlt]
      exact UInt64.le_antisymm (UInt64.le_trans (UInt64.not_lt.mp hlt) hi) hj

theorem binSearch_exact {θ : UInt64} (hθ : small ≤ θ) (m : MinSt) (h : θ ≤ m.best) : (binSearch (geCond θ) m).best = θ := by
  have hne : m.best ≠ 0 := fun h0 => absurd (UInt64.le_trans hθ (h0 ▸ h)) (by decide)
  rw [binSearch]
  by_cases hc : θ ≤ m.best - 1
  · rw [accept_ge hθ (u64_pred_lt hne) hc]
    exact binLoop_exact hθ 65 0 ⟨_, _⟩ UInt64.zero_le hc (Nat.lt_trans (UInt64.toNat_lt _) (by decide))
  · obtain ⟨m', he, hb⟩ := accept_lt θ m _ hc
    have hle := u64_succ_le (UInt64.not_le.mp hc)
    rw [UInt64.sub_add_cancel] at hle
    rw [he]
    exact hb.trans (UInt64.le_antisymm hle h)

/-- `i` counts up to `small` within the fuel and has not passed `θ` -/
theorem trySmall_ge (θ u : UInt64) (n : Nat) (i : UInt64) (probes : List UInt64) (hn : small.toNat ≤ i.toNat + n) (hle : i ≤ θ) :
    (trySmall (geCond θ) u n i probes).1 = if θ < u ∧ θ < small then some θ else none := by
  induction n generalizing i probes with
  | zero => rw [trySmall, if_neg fun h => UInt64.not_lt.mpr (UInt64.le_trans (UInt64.le_iff_toNat_le.mpr hn) hle) h.2]
  | succ n ih =>
    rw [trySmall]
    by_cases hg : i < u ∧ i < small
    · rw [if_pos hg]
      by_cases hc : θ ≤ i
      · obtain rfl := UInt64.le_antisymm hc hle
        rw [if_pos (show geCond θ θ = true from decide_eq_true hc), if_pos hg]
      · rw [if_neg (show ¬ geCond θ i = true from fun h => hc (of_decide_eq_true h))]
        refine ih _ _ ?_ (u64_succ_le (UInt64.not_le.mp hc))
        rw [u64_succ_toNat hg.1, Nat.add_right_comm]
        exact hn
    · rw [if_neg hg, if_neg fun h => hg ⟨UInt64.lt_of_le_of_lt hle h.1, UInt64.lt_of_le_of_lt hle h.2⟩]

/-- **exactness**: for every threshold `θ ≤ u`, `minimize u (θ ≤ ·) = θ` -/
theorem minimize_exact (u θ : UInt64) (h : θ ≤ u) : (minimize u (geCond θ)).1 = θ := by
  rw [minimize]
  by_cases hu0 : (u == 0) = true
  · rw [if_pos hu0]
    exact (UInt64.le_zero_iff.mp (eq_of_beq hu0 ▸ h)).symm
  · rw [if_neg hu0]
    have hts := trySmall_ge θ u 5 0 [] (Nat.le_refl 5) UInt64.zero_le
    generalize trySmall (geCond θ) u 5 0 [] = r at hts
    obtain ⟨r, probes⟩ := r
    subst hts
    by_cases hs : θ < u ∧ θ < small
    · rw [if_pos hs]
    · rw [if_neg hs]
      by_cases hus : u ≤ small
      · simp only [if_pos hus]
        exact UInt64.le_antisymm (UInt64.not_lt.mp fun hl => hs ⟨hl, UInt64.lt_of_lt_of_le hl hus⟩) h
      · simp only [if_neg hus]
        have hacc := fun (m : MinSt) c (hm : θ ≤ m.best) =>
          And.intro (Eq.refl (m.accept (geCond θ) c)) (accept_keeps (cond := geCond θ) (u := c) (θ ≤ ·) hm fun _ hc => of_decide_eq_true hc)
        exact binSearch_exact (UInt64.not_lt.mp fun hl => hs ⟨UInt64.lt_trans hl (UInt64.not_le.mp hus), hl⟩) _
          (sortBits_congr (θ ≤ ·) hacc _ _ (unsetBits_congr (θ ≤ ·) hacc _ _ (rShift_congr (θ ≤ ·) hacc 64 ⟨u, probes⟩ h).2).2).2

theorem accept_congr {cond cond' : UInt64 → Bool} (u : UInt64) (hc : ∀ x, x < u → cond x = cond' x)
    (m : MinSt) (c : UInt64) (hb : m.best ≤ u) :
    m.accept cond c = m.accept cond' c ∧ (m.accept cond c).1.best ≤ u := by
  refine ⟨?_, UInt64.le_trans (accept_best_le cond m c) hb⟩
  rw [MinSt.accept, MinSt.accept]
  by_cases hg : c ≥ m.best ∨ c < small
  · rw [if_pos hg, if_pos hg]
  · rw [if_neg hg, if_neg hg, hc c (UInt64.lt_of_lt_of_le (UInt64.not_le.mp fun h => hg (.inl h)) hb)]

theorem trySmall_congr {cond cond' : UInt64 → Bool} (u : UInt64) (hc : ∀ x, x < u → cond x = cond' x)
    (n : Nat) (i : UInt64) (probes : List UInt64) : trySmall cond u n i probes = trySmall cond' u n i probes := by
  induction n generalizing i probes with
  | zero => rfl
  | succ n ih =>
    rw [trySmall, trySmall]
    by_cases h : i < u ∧ i < small
    · rw [if_pos h, if_pos h, hc i h.1, ih]
    · rw [if_neg h, if_neg h]

/-- **locality**: the result (and the probe sequence) of `minimize u cond` depends only on the
    values of `cond` below `u` -/
theorem minimize_congr {cond cond' : UInt64 → Bool} (u : UInt64) (hc : ∀ x, x < u → cond x = cond' x) :
    minimize u cond = minimize u cond' := by
  rw [minimize, minimize, trySmall_congr u hc]
  by_cases hu0 : (u == 0) = true
  · rw [if_pos hu0, if_pos hu0]
  · rw [if_neg hu0, if_neg hu0]
    obtain ⟨_ | i, probes⟩ := trySmall cond' u 5 0 []
    · by_cases hus : u ≤ small
      · simp only [if_pos hus]
      · simp only [if_neg hus]
        have hacc := accept_congr u hc
        obtain ⟨e, h⟩ := rShift_congr (· ≤ u) hacc 64 ⟨u, probes⟩ (UInt64.le_refl u)
        rw [← e]
        generalize rShift cond 64 ⟨u, probes⟩ = m at h ⊢
        obtain ⟨e, h⟩ := unsetBits_congr (· ≤ u) hacc (len64 m.best) m h
        rw [← e]
        generalize unsetBits cond (len64 m.best) m = m at h ⊢
        obtain ⟨e, h⟩ := sortBits_congr (· ≤ u) hacc (len64 m.best) m h
        rw [← e]
        generalize sortBits cond (len64 m.best) m = m at h ⊢
        rw [(binSearch_congr (· ≤ u) hacc m h).1]
    · rfl

/-- exactness for any condition that is a threshold below `u` (what a block of a recorded
    bitstream sees: the candidates never exceed the recorded value) -/
theorem minimize_exact_on (u θ : UInt64) (cond : UInt64 → Bool) (h : θ ≤ u)
    (hc : ∀ x, x < u → cond x = decide (θ ≤ x)) : (minimize u cond).1 = θ := by
  rw [minimize_congr u (cond' := geCond θ) hc]
  exact minimize_exact u θ h

theorem minimize_le (u θ : UInt64) (h : θ ≤ u) : (minimize u (geCond θ)).1 ≤ u := by
  rw [minimize_exact u θ h]; exact h

end Rapid
