/-
  RapidModel.Rec — `recordedBits` (data.go): the recording state machine (`record`,
  `beginGroup`, `endGroup`), `removeGroup` and `prune`, literally; `without` of shrink.go.

  A Go slice expression or index that would panic (`index out of range`, `slice bounds out of
  range`) or a failed `assert` is `none` here — the theorems show it is never reached.
-/
import RapidModel.Prog

namespace Rapid

/-- `groupInfo`; `end_ = -1`: unfinished -/
structure GI where
  label : String
  standalone : Bool
  begin : Nat
  end_ : Int
  discard : Bool
deriving Repr, DecidableEq, Inhabited

structure Rec where
  data : List UInt64
  groups : List GI
deriving Repr, Inhabited

def Rec.empty : Rec := ⟨[], []⟩

/-- replay the recording calls a run made; `st`: indices of the open groups, innermost first -/
def recGo : List Tok → Rec → List Nat → Rec
  | [], r, _ => r
  | .w u :: ts, r, st => recGo ts { r with data := r.data ++ [u] } st
  | .opn l s :: ts, r, st =>
      recGo ts { r with groups := r.groups ++ [⟨l, s, r.data.length, -1, false⟩] } (r.groups.length :: st)
  | .cls d :: ts, r, i :: st =>
      recGo ts { r with groups := r.groups.modify i fun g => { g with end_ := r.data.length, discard := d } } st
  | .cls _ :: ts, r, [] => recGo ts r []
  | .abort :: ts, r, st => recGo ts r st.tail

def recOfToks (ts : List Tok) : Rec := recGo ts .empty []

/-- `data[b:e]` of Go: panics unless `b ≤ e ≤ len` -/
def slice? (data : List UInt64) (b e : Nat) : Option (List UInt64) :=
  if b ≤ e ∧ e ≤ data.length then some ((data.take e).drop b) else none

/-- `append(buf[:b], buf[e:]...)` -/
def cut? (data : List UInt64) (b : Nat) (e : Int) : Option (List UInt64) :=
  if 0 ≤ e ∧ b ≤ e.toNat ∧ e.toNat ≤ data.length then some (data.take b ++ data.drop e.toNat) else none

/-- `rec.removeGroup(i)` -/
def Rec.removeGroup (r : Rec) (i : Nat) : Option Rec :=
  match r.groups[i]? with
  | none => none
  | some g =>
    if g.end_ < 0 then none            -- assert(g.end >= 0)
    else
      match cut? r.data g.begin g.end_ with
      | none => none
      | some data =>
        let nchild := ((r.groups.drop (i + 1)).takeWhile fun h => h.end_ ≤ g.end_).length
        let groups := r.groups.take i ++ r.groups.drop (i + 1 + nchild)
        let n := g.end_.toNat - g.begin
        some ⟨data, groups.map fun h =>
          { h with begin := if (h.begin : Int) ≥ g.end_ then h.begin - n else h.begin,
                   end_ := if h.end_ ≥ g.end_ then h.end_ - n else h.end_ }⟩

def Rec.pruneGo : Nat → Nat → Rec → Option Rec
  | 0, _, r => some r
  | fuel+1, i, r =>
    match r.groups[i]? with
    | none => some r
    | some g => if g.discard then (r.removeGroup i).bind (Rec.pruneGo fuel i) else Rec.pruneGo fuel (i + 1) r

/-- `rec.prune()` (every step removes a group or advances: `groups.length + 1` steps suffice) -/
def Rec.prune (r : Rec) : Option Rec :=
  match Rec.pruneGo (r.groups.length + 1) 0 r with
  | none => none
  | some r' => if r'.groups.all (fun g => (g.begin : Int) != g.end_) then some r' else none

/-- `prune()` of a recording, computed while replaying the recording calls: when a group is
    closed with `discard`, its data and every group opened inside it are dropped on the spot.
    Same data and same finished groups as `recOfToks` followed by `Rec.prune`, for the recording of
    every run (`literal_prune_of_run`, RapidProofs/PruneLiteral.lean; also cross-checked by the driver on
    every recording it sees); the only difference is that Go's `removeGroup` also forgets unfinished
    groups that directly follow a removed one in the list — entries every pass of the shrinker skips. -/
def pruneGoT : List Tok → Rec → List (Nat × Nat) → Rec
  | [], r, _ => r
  | .w u :: ts, r, st => pruneGoT ts { r with data := r.data ++ [u] } st
  | .opn l s :: ts, r, st =>
      pruneGoT ts { r with groups := r.groups ++ [⟨l, s, r.data.length, -1, false⟩] } ((r.groups.length, r.data.length) :: st)
  | .cls d :: ts, r, (i, b) :: st =>
      if d then pruneGoT ts ⟨r.data.take b, r.groups.take i⟩ st
      else pruneGoT ts { r with groups := r.groups.modify i fun g => { g with end_ := r.data.length } } st
  | .cls _ :: ts, r, [] => pruneGoT ts r []
  | .abort :: ts, r, st => pruneGoT ts r st.tail

def prunedOfToks (ts : List Tok) : Rec := pruneGoT ts .empty []

/-- the assertion at the end of `prune()`: no group is empty -/
def Rec.noEmptyGroup (r : Rec) : Bool := r.groups.all fun g => (g.begin : Int) != g.end_

/-- data and finished groups (what the shrinker looks at) -/
def Rec.finished (r : Rec) : List UInt64 × List GI := (r.data, r.groups.filter fun g => g.end_ ≥ 0)

/-- `without(data, groups...)`: cut the groups out, last first -/
def without? (data : List UInt64) (groups : List GI) : Option (List UInt64) :=
  groups.reverse.foldlM (fun buf g => cut? buf g.begin g.end_) data

/-- `buf[i] = u` -/
def setIdx? (data : List UInt64) (i : Nat) (u : UInt64) : Option (List UInt64) :=
  if i < data.length then some (data.set i u) else none

end Rapid
