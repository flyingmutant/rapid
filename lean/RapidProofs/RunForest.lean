/-
  RapidProofs.RunForest — the recording of every run is a forest: words, finished groups around their bodies, entries of
  groups left unfinished (`run_forest`, the one induction over `Prog` about what a run records).  The words of the forest
  are the run's `used`, those outside discarded groups its `kept`.  Replaying the recording calls over the tokens of a
  forest lays it out as the group list (`recGo_rep`), the pruning recorder lays out what survives (`pruneGoT_rep`); so
  what the pruning recorder keeps (`pruned_data`), that the closing assertion of `prune()` holds of it for `GK` programs
  (`pruned_noEmpty`), and — in `PruneLiteral`, `TranslatedRecEq` — what the literal `prune()` and the source's recording
  calls do on a run's recording are read off the forest.
-/
import RapidProofs.Forest
import RapidProofs.Runs

namespace Rapid

/-- every group that is kept keeps a word (hereditarily) -/
inductive GK : Prog → Prop
  | ret (v : Val) : GK (.ret v)
  | throw (e : Err) : GK (.throw e)
  | draw (n : Nat) (k : UInt64 → Prog) : (∀ u, GK (k u)) → GK (.draw n k)
  | group (l : String) (s : Bool) (b : Prog) (d : Val → Bool) (k : Val → Prog) : GK b → (∀ v, GK (k v)) →
      (∀ src ts v, (b.run src ts).res = .ok v → d v = false → (b.run src ts).used ≠ [] → (b.run src ts).kept ≠ []) →
      GK (.group l s b d k)
  | catchInv (b : Prog) (k : Option Val → Bool → Prog) : GK b → (∀ o dr, GK (k o dr)) → GK (.catchInv b k)
  | errorf (m : String) (k : Prog) : GK k → GK (.errorf m k)
  | failOnError (site : Nat) (k : Prog) : GK k → GK (.failOnError site k)
  | tick (k : Prog) : GK k → GK (.tick k)
  | cleanup (c : CTree) (k : Prog) : GK k → GK (.cleanup c k)
  | ctx (k : Prog) : GK k → GK (.ctx k)
  | inner (b : Prog) (k : Val → Prog) : GK b → (∀ v, GK (k v)) → GK (.inner b k)
  | emit (id : Nat) (k : Prog) : GK k → GK (.emit id k)

theorem modify_mid {α : Type} (a b : List α) (x : α) (f : α → α) : (a ++ x :: b).modify a.length f = a ++ f x :: b :=
  List.modifyTailIdx_add _ 0 a (x :: b)

/-- the tokens of a run are the bracket word of a forest.  `abt`: a group left unfinished stays in the list as an entry
    with `end = -1`, which encloses nothing — what its body recorded stands behind the entry, on the same level
    (`Fb.app Ft`) -/
inductive Rep : List Tok → Forest → Prop
  | nil : Rep [] .nil
  | w (u : UInt64) {t : List Tok} {F : Forest} : Rep t F → Rep (.w u :: t) (.w u F)
  | grp (l : String) (s d : Bool) {tb t : List Tok} {Fb Ft : Forest} : Rep tb Fb → Rep t Ft →
      Rep (.opn l s :: (tb ++ .cls d :: t)) (.grp l s Fb d Ft)
  | abt (l : String) (s : Bool) {tb t : List Tok} {Fb Ft : Forest} : Rep tb Fb → Rep t Ft →
      Rep (.opn l s :: (tb ++ .abort :: t)) (.opn l s (Fb.app Ft))

theorem Rep.append {t1 t2 : List Tok} {F1 F2 : Forest} (h1 : Rep t1 F1) (h2 : Rep t2 F2) : Rep (t1 ++ t2) (F1.app F2) := by
  induction h1 with
  | nil => exact h2
  | w u _ ih => exact Rep.w u ih
  | grp l s d hb _ _ iht =>
    have := Rep.grp l s d hb iht
    simpa [Forest.app] using this
  | abt l s hb _ _ iht =>
    have := Rep.abt l s hb iht
    simpa [Forest.app, Forest.app_assoc] using this

theorem recGo_rep {toks : List Tok} {F : Forest} (h : Rep toks F) : ∀ (rest : List Tok) (r : Rec) (st : List Nat),
    recGo (toks ++ rest) r st = recGo rest ⟨r.data ++ F.words, r.groups ++ F.fin r.data.length⟩ st := by
  induction h with
  | nil => intro rest r st; simp [Forest.words, Forest.fin]
  | w u _ ih => intro rest r st; simp [recGo, ih, Forest.words, Forest.fin]
  | grp l s d _ _ ihb iht =>
    intro rest r st
    simp [recGo, ihb, iht, modify_mid, Forest.words, Forest.fin, Forest.size]
  | abt l s _ _ ihb iht =>
    intro rest r st
    simp [recGo, ihb, iht, Forest.words, Forest.fin, Forest.fin_app, Forest.size]

theorem pruneGoT_rep {toks : List Tok} {F : Forest} (h : Rep toks F) : ∀ (rest : List Tok) (r : Rec) (st : List (Nat × Nat)),
    pruneGoT (toks ++ rest) r st = pruneGoT rest ⟨r.data ++ F.pwords, r.groups ++ F.tfin r.data.length⟩ st := by
  induction h with
  | nil => intro rest r st; simp [Forest.pwords, Forest.tfin]
  | w u _ ih => intro rest r st; simp [pruneGoT, ih, Forest.pwords, Forest.tfin]
  | grp l s d _ _ ihb iht =>
    intro rest r st
    cases d <;> simp [pruneGoT, ihb, iht, modify_mid, List.take_left', Forest.pwords, Forest.tfin, Forest.psize]
  | abt l s _ _ ihb iht =>
    intro rest r st
    simp [pruneGoT, ihb, iht, Forest.pwords, Forest.tfin, Forest.tfin_app, Forest.psize]

theorem recOfToks_rep {toks : List Tok} {F : Forest} (h : Rep toks F) : recOfToks toks = ⟨F.words, F.fin 0⟩ := by
  simpa [recOfToks, recGo, Rec.empty] using recGo_rep h [] .empty []

theorem prunedOfToks_rep {toks : List Tok} {F : Forest} (h : Rep toks F) : prunedOfToks toks = ⟨F.pwords, F.tfin 0⟩ := by
  simpa [prunedOfToks, pruneGoT, Rec.empty] using pruneGoT_rep h [] .empty []

structure Records (o : Out) (F : Forest) : Prop where
  rep : Rep o.toks F
  wf : F.WFne
  used : F.words = o.used
  kept : F.pwords = o.kept

theorem Records.nil {o : Out} (ht : o.toks = []) (hu : o.used = []) (hk : o.kept = []) : Records o .nil :=
  ⟨ht ▸ Rep.nil, trivial, hu.symm, hk.symm⟩

theorem Records.after {o1 o2 : Out} {F1 F2 : Forest} (h1 : Records o1 F1) (h2 : Records o2 F2) (evs : List Ev) (ov : Bool) :
    Records (o2.after o1.used o1.kept o1.toks evs ov) (F1.app F2) :=
  ⟨h1.rep.append h2.rep, (Forest.wfne_app _ _).mpr ⟨h1.wf, h2.wf⟩, by simp [h1.used, h2.used], by simp [h1.kept, h2.kept]⟩

theorem Records.step {o : Out} {F : Forest} (h : Records o F) (evs : List Ev) : Records (o.after [] [] [] evs) F :=
  ⟨h.rep, h.wf, h.used, h.kept⟩

theorem Records.word {o : Out} {F : Forest} (h : Records o F) (u : UInt64) : Records (o.after [u] [u] [.w u] []) (.w u F) :=
  ⟨Rep.w u h.rep, h.wf, congrArg (u :: ·) h.used, congrArg (u :: ·) h.kept⟩

/-- a group whose body raised, or tripped the assertion of `endGroup`: it stays unfinished -/
theorem Records.aborted {o : Out} {F : Forest} (h : Records o F) (l : String) (s : Bool) (res : Except Err Val) :
    Records { o with res := res, toks := .opn l s :: o.toks ++ [.abort] } (.opn l s F) :=
  ⟨by simpa [Forest.app_nil] using Rep.abt l s h.rep Rep.nil, h.wf, h.used, h.kept⟩

theorem Records.closed {ob ok : Out} {Fb Fk : Forest} (hb : Records ob Fb) (hk : Records ok Fk) (l : String) (s : Bool) {d : Bool}
    (hne : d = false → ob.used ≠ []) :
    Records (ok.after ob.used (if d then [] else ob.kept) (.opn l s :: ob.toks ++ [.cls d]) ob.evs ob.overran) (.grp l s Fb d Fk) :=
  ⟨by simpa using Rep.grp l s d hb.rep hk.rep, ⟨hb.wf, hk.wf, fun hd => List.length_pos_iff.mpr (hb.used ▸ hne hd)⟩,
    by simp [Forest.words, hb.used, hk.used], by cases d <;> simp [Forest.pwords, hb.kept, hk.kept]⟩

/-- **every run records a forest**, and every kept group of it keeps a word if every kept group of the program does.
    The numbering of the cases is given in Replay.lean. -/
theorem run_forest (p : Prog) (src : Src) (ts : TS) : ∃ F, Records (p.run src ts) F ∧ (GK p → F.KeptNE) := by
  fun_induction Prog.run p src ts
  case case1 | case2 | case3 | case12 => exact ⟨.nil, .nil rfl rfl rfl, fun _ => trivial⟩
  case case4 u _ _ ih =>
    obtain ⟨F, h, hk⟩ := ih
    exact ⟨.w u F, h.word u, fun | .draw _ _ g => hk (g u)⟩
  case case5 ih | case6 ih =>
    obtain ⟨F, h, hk⟩ := ih
    -- `GK` of the program, taken apart, holds `GK` of the part that ran
    exact ⟨_, h.aborted _ _ _, fun g => by cases g; exact hk ‹_›⟩
  case case7 l s b d k src ts o v hres hc ihb ihk =>
    obtain ⟨Fb, hb, hbk⟩ := ihb
    obtain ⟨Fk, hk, hkk⟩ := ihk
    have hne : d v = false → o.used ≠ [] := fun hd he => hc (by simp [hd, he])
    exact ⟨_, hb.closed hk l s hne, fun
      | .group _ _ _ _ _ gb gk keep =>
        ⟨hbk gb, hkk (gk v), fun hd => List.length_pos_iff.mpr (hb.kept ▸ keep src ts v hres hd (hne hd))⟩⟩
  case case8 ihb ihk | case9 ihb ihk =>
    obtain ⟨Fb, hb, hbk⟩ := ihb
    obtain ⟨Fk, hk, hkk⟩ := ihk
    exact ⟨_, hb.after hk _ _, fun | .catchInv _ _ gb gk => Forest.keptNE_app _ _ (hbk gb) (hkk (gk _ _))⟩
  case case20 ihb ihk =>
    obtain ⟨Fb, hb, hbk⟩ := ihb
    obtain ⟨Fk, hk, hkk⟩ := ihk
    exact ⟨_, hb.after hk _ _, fun | .inner _ _ gb gk => Forest.keptNE_app _ _ (hbk gb) (hkk (gk _))⟩
  case case10 ih | case13 ih | case14 ih | case15 ih =>
    obtain ⟨F, h, hk⟩ := ih
    exact ⟨F, h, fun g => by cases g; exact hk ‹_›⟩
  case case11 ih | case16 ih | case17 ih | case21 ih =>
    obtain ⟨F, h, hk⟩ := ih
    exact ⟨F, h.step _, fun g => by cases g; exact hk ‹_›⟩
  case case18 ih | case19 ih =>
    obtain ⟨F, h, hk⟩ := ih
    exact ⟨F, ⟨h.rep, h.wf, h.used, h.kept⟩, fun g => by cases g; exact hk ‹_›⟩

theorem run_rep (p : Prog) : ∀ (src : Src) (ts : TS), ∃ F, Rep (p.run src ts).toks F ∧ F.WFne ∧ F.words = (p.run src ts).used := by
  intro src ts
  obtain ⟨F, h, _⟩ := run_forest p src ts
  exact ⟨F, h.rep, h.wf, h.used⟩

/-- **the pruning recorder `prunedOfToks` keeps exactly the model's `kept`**; that the literal `prune()` (`Rec.prune`) agrees
    with it on every run's recording is `literal_prune_of_run` (PruneLiteral) -/
theorem pruned_data (p : Prog) (src : Src) (ts : TS) : (prunedOfToks (p.run src ts).toks).data = (p.run src ts).kept := by
  obtain ⟨F, h, _⟩ := run_forest p src ts
  rw [prunedOfToks_rep h.rep, h.kept]

/-- the assertion of `prune()` holds for the recording of every run of a `GK` program -/
theorem pruned_noEmpty {p : Prog} (hp : GK p) (src : Src) (ts : TS) : (prunedOfToks (p.run src ts).toks).noEmptyGroup = true := by
  obtain ⟨F, h, hk⟩ := run_forest p src ts
  rw [prunedOfToks_rep h.rep]
  exact Forest.tfin_ne F (hk hp) 0

end Rapid
