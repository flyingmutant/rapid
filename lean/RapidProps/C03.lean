/-
  C03 — generated values always satisfy the generator's contract, for every bitstream.

  Proved here, for every bit source (PRNG state or arbitrary buffer), every parameter value and
  every continuation: the integer primitives hand on a value inside the requested range or
  raise invalid data / run out of model fuel — never an out-of-range value and never an
  assertion failure.  Every public integer generator, `SampledFrom`, `OneOf`, every length of
  a collection, every rune index goes through these primitives.  Signed ranges (the sign split
  and the negation, including -MinInt64), the length bounds of slices, distinct slices, maps of
  values and strings, key distinctness and the Filter predicate are theorems too; the remaining
  contracts (regexp, Make, the unicode tables behind Rune/String) are covered by the correspondence check +
  monitor (see DESIGN.md for what is theorem and what is validated).
  Floats: floats.go is integer arithmetic on IEEE-754 bit patterns; `Float32Range`/`Float64Range`
  are modelled on bit patterns (RapidModel/Float.lean) and the theorems below give, for every bit
  source and all non-NaN bounds `min ≤ max`: the value lies in `[min, max]` in the order of the
  real numbers, is never a NaN, is infinite only if a bound is infinite, and no assertion of
  `genUfloatRange`/`genUintRange`/`genIntRange` fires.
  Not provable here: termination of rejection loops on the PRNG (probabilistic); the dynamic
  Go type produced by `Make` (reflection).
-/
import RapidModel.Generated.CallOrders
import RapidModel.Generated.Consts
import RapidProofs.ContractsGen
import RapidProofs.MeasuredTables
import RapidProofs.TranslatedChoiceEq
import RapidProofs.TranslatedFindEq
import RapidProofs.TranslatedFloatEq
import RapidProofs.TranslatedRepeatEq

namespace Rapid.C03

theorem uintNoReject_le (max : UInt64) : Yields (uintNoReject max) (fun u => u ≤ max) := yields_uintNoReject max

theorem uintN_le (ft : FT) (max : UInt64) (bias : Bool) (fuel : Nat) :
    Yields (fun (k : UInt64 × Bool × Bool → Prog) => uintN ft max bias fuel (fun u l r => k (u, l, r)))
      (fun x => x.1 ≤ max) := ((spec_uintN ft max bias fuel).mono fun _ h => h.1).yields

theorem uintRange_mem (ft : FT) (min max : UInt64) (bias : Bool) (fuel : Nat) (h : min ≤ max) :
    Yields (fun (k : UInt64 × Bool × Bool → Prog) => uintRange ft min max bias fuel (fun u l r => k (u, l, r)))
      (fun x => min ≤ x.1 ∧ x.1 ≤ max) := ((spec_uintRange ft min max bias fuel h).mono fun _ h => h.1).yields

theorem index_lt (ft : FT) (n : Nat) (bias : Bool) (fuel : Nat) (hn : 0 < n) (hs : n ≤ 2 ^ 64) :
    Yields (index ft n bias fuel) (fun i => i < n) := yields_index ft n bias fuel hn hs

/-- an invalid range is rejected by an assertion at draw time (the public constructors reject
    it earlier, at construction) -/
theorem invalid_range_rejected (ft : FT) (min max : UInt64) (bias : Bool) (fuel : Nat) (k : UInt64 → Bool → Bool → Prog)
    (h : min > max) : uintRange ft min max bias fuel k = .throw (.panic "invalid range" siteAssert) := by
  simp [uintRange, h]

/-- the hypothesis `min ≤ max` is satisfiable -/
example : (3 : UInt64) ≤ 10 := by decide

/-- signed ranges: every value handed on lies in `[min, max]` — including ranges that touch
    `MinInt64` (whose magnitude is not representable) and one-point ranges -/
theorem intRange_mem (ft : FT) (min max : Int64) (fuel : Nat) (h : min ≤ max) :
    Yields (fun (k : Int64 × Bool × Bool → Prog) => intRange ft min max fuel (fun i l r => k (i, l, r)))
      (fun x => min ≤ x.1 ∧ x.1 ≤ max) := ((spec_intRange ft min max fuel h).mono fun _ h => h.1).yields

/-- every `repeat` loop (collections, strings, maps): the number of accepted elements is between
    `minCount` and `maxCount` when the loop hands its accumulator on -/
theorem repeat_count (c : RCfg) (hmm : c.minC ≤ c.maxC) (step : Val → Prog) (hshape : StepShape step)
    (m : Val → Nat) (hstep : ∀ acc src ts a, ((step acc).run src ts).res = .ok (rAcc a) → m a = m acc + 1)
    (fuel : Nat) (s : RSt) (acc : Val) (hs : s.count ≤ c.maxC) (hm : m acc = s.count) :
    Reaches (fun k => repeatLoop c step k fuel s acc) (fun a => c.minC ≤ m a ∧ m a ≤ c.maxC) :=
  reaches_repeatLoop c hmm step hshape m hstep fuel s acc hs hm

theorem sliceOf_length (e : Env) (lab : Bool) (elem : Gen) (lo hi : Int) (hmm : normMin lo ≤ normMax hi)
    (src : Src) (ts : TS) (v : Val) (h : (((Gen.slice elem lo hi).body e lab).run src ts).res = .ok v) :
    normMin lo ≤ v.length ∧ v.length ≤ normMax hi :=
  (repeat_collect_elem ⟨normMin lo, normMax hi, _, _⟩ hmm _ (fun acc w => rAcc (acc.snoc w)) (fun _ => True)
    (fun _ _ => Or.inr ⟨_, rfl, id⟩) trivial _ src ts v h).1

theorem sliceOfDistinct_length_and_keys (e : Env) (lab : Bool) (elem : Gen) (lo hi : Int) (key : Val → Val)
    (hmm : normMin lo ≤ normMax hi) (src : Src) (ts : TS) (v : Val)
    (h : (((Gen.distinct elem lo hi key).body e lab).run src ts).res = .ok v) :
    (normMin lo ≤ v.length ∧ v.length ≤ normMax hi) ∧ Val.distinctBy key v :=
  repeat_collect_elem ⟨normMin lo, normMax hi, _, _⟩ hmm _ (fun acc w => if acc.hasKey key (key w) then rRej else rAcc (acc.snoc w))
    (Val.distinctBy key) (fun acc w => rej_or_snoc acc w _ fun hk hI => Val.distinctBy_snoc key acc w hI (Bool.eq_false_iff.mpr hk))
    trivial _ src ts v h

theorem mapOfValues_size (e : Env) (lab : Bool) (vg : Gen) (lo hi : Int) (key : Val → Val) (hmm : normMin lo ≤ normMax hi)
    (src : Src) (ts : TS) (v : Val) (h : (((Gen.mapOfValues vg lo hi key).body e lab).run src ts).res = .ok v) :
    normMin lo ≤ v.length ∧ v.length ≤ normMax hi := (mapOfValues_size_and_keys e lab vg lo hi key hmm src ts v h).1

theorem stringOf_runes (e : Env) (lab : Bool) (elem : Gen) (lo hi ml : Int) (hmm : normMin lo ≤ normMax hi)
    (src : Src) (ts : TS) (v : Val) (h : (((Gen.stringOf elem lo hi ml).body e lab).run src ts).res = .ok v) :
    normMin lo ≤ v.length ∧ v.length ≤ normMax hi := (stringOf_all e lab elem lo hi ml hmm src ts v h).1

theorem filter_predicate_holds (e : Env) (lab : Bool) (g : Gen) (p : Val → Bool) (src : Src) (ts : TS) (v : Val)
    (h : (((Gen.filter g p).body e lab).run src ts).res = .ok v) : p v = true := filter_pred e lab g p src ts v h

/-- the premises are satisfiable: `[MinInt64, MinInt64+1]`, and lengths `2 ≤ 5` -/
example : (Int64.minValue ≤ Int64.minValue + 1) ∧ normMin 2 ≤ normMax 5 := by decide

/-- `StringOfN`: at most `maxLen` bytes and only runes that have a UTF-8 encoding (no surrogates, nothing
    beyond U+10FFFF, nothing negative) — whatever the element generator yields -/
theorem stringOf_byte_length_and_valid_runes (e : Env) (lab : Bool) (elem : Gen) (lo hi ml : Int) (hmm : normMin lo ≤ normMax hi)
    (src : Src) (ts : TS) (v : Val) (h : (((Gen.stringOf elem lo hi ml).body e lab).run src ts).res = .ok v) :
    v.byteLen ≤ normMax ml ∧ v.allRunes := (stringOf_all e lab elem lo hi ml hmm src ts v h).2

/-- `MapOfN`: pairwise distinct keys, size within the bounds -/
theorem mapOf_distinct_keys_and_size (e : Env) (lab : Bool) (kg vg : Gen) (lo hi : Int) (hmm : normMin lo ≤ normMax hi)
    (src : Src) (ts : TS) (v : Val) (h : (((Gen.mapOf kg vg lo hi).body e lab).run src ts).res = .ok v) :
    Val.distinctBy entryKey v ∧ normMin lo ≤ v.length ∧ v.length ≤ normMax hi := by
  obtain ⟨hl, hd⟩ := repeat_collect ⟨normMin lo, normMax hi, _, _⟩ hmm _ (Val.distinctBy entryKey)
    (fun acc src ts r hr => by
      obtain ⟨k, w, rfl⟩ := bind2_ret_res _ _ (fun k w => if acc.hasKey entryKey k then rRej else rAcc (acc.snoc (.cons k w))) src ts r hr
      exact rej_or_snoc acc _ _ fun hk hI => Val.distinctBy_snoc entryKey acc _ hI (Bool.eq_false_iff.mpr hk)) trivial _ src ts v h
  exact ⟨hd, hl⟩

/-- `Permutation`: the value is a permutation of the input -/
theorem permutation_is_a_permutation (e : Env) (lab : Bool) (n : Nat) (hn : n ≤ 2 ^ 63) (src : Src) (ts : TS) (v : Val)
    (h : (((Gen.perm n).body e lab).run src ts).res = .ok v) :
    v.toList.Perm ((List.range n).map fun (i : Nat) => Val.int (Int.ofNat i)) := perm_is_permutation e lab n hn src ts v h

/-- `Float64Range(min, max)`, every bit source: the value is in `[min, max]`, not a NaN — or the
    draw ends with invalid data (never with an assertion, never with an out-of-range value) -/
theorem float64_in_range (ft : FT) (min max : UInt64) (fuel : Nat) (hok : floatRangeOK fmt64 min max = true) :
    Yields (floatValue ft fmt64 min max fuel) (FloatOK fmt64 min max) :=
  (spec_floatValue ft fmt64 wf64 min max fuel hok).yields

/-- `Float32Range(min, max)` likewise -/
theorem float32_in_range (ft : FT) (min max : UInt64) (fuel : Nat) (hok : floatRangeOK fmt32 min max = true) :
    Yields (floatValue ft fmt32 min max fuel) (FloatOK fmt32 min max) :=
  (spec_floatValue ft fmt32 wf32 min max fuel hok).yields

/-- any format that fits a word (the statement does not depend on 23/8 or 52/11) -/
theorem float_in_range (ft : FT) (f : FFmt) (hf : f.WF) (min max : UInt64) (fuel : Nat)
    (hok : floatRangeOK f min max = true) : Yields (floatValue ft f min max fuel) (FloatOK f min max) :=
  (spec_floatValue ft f hf min max fuel hok).yields

/-- a value in range is infinite only if the bound on that side is infinite -/
theorem float_infinite_only_if_bound (f : FFmt) (hpos : 0 < f.inf.toNat) (min max b : UInt64)
    (hok : floatRangeOK f min max = true) (h : FloatOK f min max b) (hinf : f.mag b = f.inf) :
    (f.isNeg b = true → f.mag min = f.inf ∧ f.isNeg min = true) ∧
    (f.isNeg b = false → f.mag max = f.inf ∧ f.isNeg max = false) := by
  rw [floatRangeOK_iff, f.not_isNaN_iff, f.not_isNaN_iff] at hok
  obtain ⟨h1, h2, _⟩ := h
  rw [f.fle_iff] at h1 h2
  -- the key of `b` is `±inf`, and the keys of the bounds lie between `-inf` and `inf`
  have kb := f.key_eq b; have k0 := f.key_eq min; have k1 := f.key_eq max
  rw [hinf] at kb
  constructor
  · intro hb
    cases hm : f.isNeg min <;> simp only [hm, hb, K, Bool.false_eq_true, if_false, if_true] at kb k0
    · omega
    · exact ⟨UInt64.toNat_inj.mp (by omega), rfl⟩
  · intro hb
    cases hm : f.isNeg max <;> simp only [hm, hb, K, Bool.false_eq_true, if_false, if_true] at kb k1
    · exact ⟨UInt64.toNat_inj.mp (by omega), rfl⟩
    · omega

example : 0 < fmt32.inf.toNat ∧ 0 < fmt64.inf.toNat := by decide

/-! ### the float code of /repo, translated on every run, is the model the theorems are about

  `extract/translate.go` turns `bitmask64`, `ufloatFracBits`, `ufloat64Parts`, `ufloat64FromParts`, the
  two `switch` blocks and the bit-clearing loop of `genUfloatRange` (floats.go, utils.go) into Lean definitions
  (`RapidModel/Generated/Translated.lean`, rewritten from the working tree on every run).  The theorems
  below identify them with the hand-written model for ALL arguments: a change of any of these
  functions in /repo breaks a proof here, not only a sampled correspondence. -/

theorem source_bitmask64 (n : UInt64) : Translated.bitmask64 n = bitmask64 n.toNat := tr_bitmask64 n

theorem source_ufloatFracBits (e : Int32) (s : UInt64) :
    (Translated.ufloatFracBits e s).toNat = fracBits e.toInt s.toNat := tr_fracBits e s

theorem source_ufloat64Parts (f : UInt64) :
    ((Translated.ufloat64Parts f).1.toInt, (Translated.ufloat64Parts f).2.1, (Translated.ufloat64Parts f).2.2) = fmt64.parts f :=
  tr_parts64 f

theorem source_ufloat64FromParts (e : Int32) (si sf : UInt64) :
    Translated.ufloat64FromParts e si sf = fmt64.ufromParts e.toInt si sf := tr_fromParts64 e si sf

theorem source_ufloat32Parts (f : UInt32) :
    ((Translated.ufloat32Parts f).1.toInt, (Translated.ufloat32Parts f).2.1, (Translated.ufloat32Parts f).2.2) = fmt32.parts f.toUInt64 :=
  tr_parts32 f

theorem source_ufloat32FromParts (e : Int32) (si sf : UInt64) :
    (Translated.ufloat32FromParts e si sf).toUInt64 = fmt32.ufromParts e.toInt si sf := tr_fromParts32 e si sf

theorem source_genUfloatRange_switches (e : Int64) (fb S : UInt64) (l r : Bool) (maxExp minExp : Int32)
    (maxSI minSI F0 F1 si : UInt64) (he : e.toInt32.toInt = e.toInt) (hfb : fb.toNat = fracBits e.toInt S.toNat) :
    Translated.ufloatSwitchSI e fb l maxExp maxSI minExp minSI r S =
      siBounds S.toNat (minExp.toInt, minSI, F0) (maxExp.toInt, maxSI, F1) e.toInt l r ∧
    Translated.ufloatSwitchSF e fb l maxExp F1 maxSI minExp F0 minSI r si =
      sfBounds S.toNat (minExp.toInt, minSI, F0) (maxExp.toInt, maxSI, F1) e.toInt l r si :=
  ⟨tr_switchSI e fb S l r maxExp minExp maxSI minSI F0 F1 he hfb, tr_switchSF e fb S l r maxExp minExp maxSI minSI F0 F1 si he hfb⟩

/-- the loop at the end of `genUfloatRange` that clears low bits of the fractional significand -/
theorem source_genUfloatRange_clear_loop (maxR : Int64) (r sfMin : UInt64) (hb : (maxR.toUInt64 - r).toNat ≤ 64)
    (fuel : Nat) (sf : UInt64) (hf : (maxR.toUInt64 - r).toNat ≤ fuel) :
    Translated.ufloatClearLoop maxR r sfMin fuel 0 sf = clearLow sfMin (maxR.toUInt64 - r).toNat 0 sf :=
  tr_clearLoop_cnt maxR r sfMin hb _ fuel 0 sf (Nat.zero_add _) hf

/-- the premises are satisfiable: `[-1.5, +Inf]` in float64 and `[-0, 1]` in float32 are admissible
    ranges, and NaN bounds or reversed bounds are not -/
example : floatRangeOK fmt64 0xBFF8000000000000 0x7FF0000000000000 = true ∧
    floatRangeOK fmt32 0x80000000 0x3F800000 = true ∧
    floatRangeOK fmt64 0x7FF8000000000001 0x7FF0000000000000 = false ∧
    floatRangeOK fmt64 0x3FF0000000000000 0 = false := by decide

/-! ### the integer generators of utils.go, translated on every run, are the model

  The functions that work on the bit stream (`genUintNNoReject`, `genUintNUnbiased`, `genUintNBiased`,
  `genUintN`, `genUintRange`, `genIntRange`, `genIndex`, `flipBiasedCoin`, `genGeom`, `genFloat01`) are
  translated statement by statement into continuation-passing style over `Prog`
  (`extract/translate_prog.go`).  For every bit source and `*T` state the translated function and the
  hand-written model have the same run, given the floating-point facts `FloatFacts` (the thresholds
  measured on the real functions on every run); so the range contracts above hold of the source. -/

theorem source_genUintRange (fe : Go.FEval) (ft : FT) (H : FloatFacts fe ft) (min max : UInt64) (bias : Bool) (fuel : Nat)
    (k : UInt64 → Bool → Bool → Prog) (src : Src) (ts : TS) :
    (Translated.genUintRange fe min max bias fuel k).run src ts = (uintRange ft min max bias fuel k).run src ts :=
  tr_genUintRange fe ft H min max bias fuel k k (fun _ _ _ => RunEq.refl _) src ts

theorem source_genIntRange (fe : Go.FEval) (ft : FT) (H : FloatFacts fe ft) (min max : Int64) (fuel : Nat)
    (k : Int64 → Bool → Bool → Prog) (src : Src) (ts : TS) :
    (Translated.genIntRange fe min max true fuel k).run src ts = (intRange ft min max fuel k).run src ts :=
  tr_genIntRange fe ft H min max fuel k k (fun _ _ _ => RunEq.refl _) src ts

theorem source_genIndex (fe : Go.FEval) (ft : FT) (H : FloatFacts fe ft) (n : Nat) (hn : n < 2 ^ 62) (bias : Bool) (fuel : Nat)
    (k : Nat → Prog) (src : Src) (ts : TS) :
    (Translated.genIndex fe (Int64.ofNat n) bias fuel (fun i => k i.toUInt64.toNat)).run src ts = (index ft n bias fuel k).run src ts :=
  tr_genIndex fe ft H n hn bias fuel _ k (fun u => by rw [UInt64.toUInt64_toInt64]; exact RunEq.refl _) src ts

theorem source_genUintNNoReject (fe : Go.FEval) (max : UInt64) (fuel : Nat) (k : UInt64 → Prog) (src : Src) (ts : TS) :
    (Translated.genUintNNoReject fe max fuel k).run src ts = (uintNoReject max k).run src ts :=
  tr_genUintNNoReject fe max fuel k k (fun _ => RunEq.refl _) src ts

/-- the range contract, for the source: `genIntRange(s, min, max, true)` hands on a value of `[min, max]` -/
theorem source_genIntRange_in_range (fe : Go.FEval) (ft : FT) (H : FloatFacts fe ft) (min max : Int64) (fuel : Nat) (h : min ≤ max) :
    Yields (fun (k : Int64 × Bool × Bool → Prog) => Translated.genIntRange fe min max true fuel (fun i l r => k (i, l, r)))
      (fun x => min ≤ x.1 ∧ x.1 ≤ max) :=
  Yields.of_runEq (fun _ => source_genIntRange fe ft H min max fuel _) (intRange_mem ft min max fuel h)

theorem source_genUintRange_in_range (fe : Go.FEval) (ft : FT) (H : FloatFacts fe ft) (min max : UInt64) (bias : Bool) (fuel : Nat)
    (h : min ≤ max) :
    Yields (fun (k : UInt64 × Bool × Bool → Prog) => Translated.genUintRange fe min max bias fuel (fun u l r => k (u, l, r)))
      (fun x => min ≤ x.1 ∧ x.1 ≤ max) :=
  Yields.of_runEq (fun _ => source_genUintRange fe ft H min max bias fuel _) (uintRange_mem ft min max bias fuel h)

/-- **`integerGen.value` of integers.go (every integer generator: `Int`, `Uint8Range`, `Int32Min` …), translated on every run**: a
    signed kind draws `genIntRange(smin, smax)`, an unsigned one `genUintRange(umin, umax)`, both with bias, and the value is
    converted to the kind — the `.int` / `.uint` cases of the model's `Gen.body` -/
theorem source_integerGen_value_signed (fe : Go.FEval) (ft : FT) (H : FloatFacts fe ft) {I : Type} [Go.Enc I] [Inhabited I]
    (smin smax : Int64) (umax umin : UInt64) (ci : Int64 → I) (cu : UInt64 → I) (fuel : Nat) (k : I → Prog) (src : Src) (ts : TS) :
    (Translated.integerGen_value fe true smin smax umax umin ci cu fuel k).run src ts =
      (intRange ft smin smax fuel fun i _ _ => k (ci i)).run src ts := by
  simp only [Translated.integerGen_value, if_true]
  exact source_genIntRange fe ft H smin smax fuel _ src ts

theorem source_integerGen_value_unsigned (fe : Go.FEval) (ft : FT) (H : FloatFacts fe ft) {I : Type} [Go.Enc I] [Inhabited I]
    (smin smax : Int64) (umax umin : UInt64) (ci : Int64 → I) (cu : UInt64 → I) (fuel : Nat) (k : I → Prog) (src : Src) (ts : TS) :
    (Translated.integerGen_value fe false smin smax umax umin ci cu fuel k).run src ts =
      (uintRange ft umin umax true fuel fun u _ _ => k (cu u)).run src ts := by
  simp only [Translated.integerGen_value, Bool.false_eq_true, if_false]
  exact source_genUintRange fe ft H umin umax true fuel _ src ts

/-- … so every value an integer generator of the source hands on lies between the bounds of the generator (before the
    conversion to the kind, which is the identity on values of the kind) -/
theorem source_integerGen_in_range (fe : Go.FEval) (ft : FT) (H : FloatFacts fe ft) (smin smax : Int64) (umax umin : UInt64) (fuel : Nat)
    (hs : smin ≤ smax) (hu : umin ≤ umax) :
    Yields (fun (k : Int64 → Prog) => Translated.integerGen_value fe true smin smax umax umin id (fun u => u.toInt64) fuel k)
        (fun x => smin ≤ x ∧ x ≤ smax) ∧
    Yields (fun (k : UInt64 → Prog) => Translated.integerGen_value fe false smin smax umax umin (fun i => i.toUInt64) id fuel k)
        (fun x => umin ≤ x ∧ x ≤ umax) :=
  ⟨Yields.of_runEq (fun k => source_integerGen_value_signed fe ft H smin smax umax umin id _ fuel k)
      (((spec_intRange ft smin smax fuel hs).map (·.1)).mono fun _ ⟨_, h, e⟩ => e ▸ h.1).yields,
   Yields.of_runEq (fun k => source_integerGen_value_unsigned fe ft H smin smax umax umin _ id fuel k)
      (((spec_uintRange ft umin umax true fuel hu).map (·.1)).mono fun _ ⟨_, h, e⟩ => e ▸ h.1).yields⟩

/-- **floats.go, translated on every run**: `genFloatRange` (sign coin, the two calls of `genUfloatRange` with
    their groups, both `switch` blocks, the rejection-free draw of `r`, the bit-clearing loop) for float64 runs
    in lock-step with the model and hands on the same sign, exponent and significand parts -/
theorem source_genFloatRange64 (fe : Go.FEval) (ft : FT) (H : FloatFacts fe ft) (HB : FloatFactsBits fe ft) (min max : UInt64)
    (fuel : Nat) (hok : floatRangeOK fmt64 min max = true) :
    Sim (fun (k : Bool × Int32 × UInt64 × UInt64 → Prog) => Translated.genFloatRange fe min max 52 fuel (fun s e si sf => k (s, e, si, sf)))
        (fun (k : Bool × Int × UInt64 × UInt64 → Prog) => floatRange ft fmt64 min max fuel (fun s e si sf => k (s, e, si, sf)))
        FloatRel :=
  sim_genFloatRange64 fe ft H HB min max fuel hok

/-- the range contract of `Float64Range`, for the source: `float64FromParts(genFloatRange(s, min, max, 52))` is in
    `[min, max]` and not a NaN, for every bit source -/
theorem source_float64_in_range (fe : Go.FEval) (ft : FT) (H : FloatFacts fe ft) (HB : FloatFactsBits fe ft) (min max : UInt64)
    (fuel : Nat) (hok : floatRangeOK fmt64 min max = true) :
    Yields (fun (k : UInt64 → Prog) =>
        Translated.genFloatRange fe min max 52 fuel (fun s e si sf => k (Translated.float64FromParts s e si sf)))
      (FloatOK fmt64 min max) :=
  Yields.of_runEq (fun k => (sim_float64Value fe ft H HB min max fuel hok).runEq k k (fun _ _ h _ _ => h ▸ rfl))
    (float64_in_range ft min max fuel hok)

theorem source_floatFromParts (sign : Bool) (e : Int32) (si sf : UInt64) :
    Translated.float64FromParts sign e si sf = fmt64.fromParts sign e.toInt si sf ∧
    (Translated.float32FromParts sign e si sf).toUInt64 = fmt32.fromParts sign e.toInt si sf :=
  ⟨tr_float64FromParts sign e si sf, tr_float32FromParts sign e si sf⟩

/-- the float hypotheses can be met as well -/
theorem float_facts_bits_satisfiable : FloatFactsBits (feOf Rapid.Generated.ft) Rapid.Generated.ft :=
  floatFactsBits_feOf _

/-- `FloatFacts` is not an empty hypothesis: an evaluator that answers from the measured table meets it -/
theorem float_facts_satisfiable : FloatFacts (feOf Rapid.Generated.ft) Rapid.Generated.ft :=
  floatFacts_feOf _ fun _ hb => (tablesOK_spec measured_tablesOK hb).2.2

/-- **`find(gen, t, 5)` of /repo is the model's `findLoop`** (an equality of programs): up to five tries, each inside a group
    `try` that is discarded when the try gave no value; after the fifth, invalid data "failed to find suitable value
    in 5 tries" -/
theorem source_find {V : Type} [Go.Enc V] [Inhabited V] (fe : Go.FEval) (gen : (V → Bool → Prog) → Prog) (k : V → Prog) (fuel : Nat) :
    Translated.find fe gen 5 (fuel + 6) k =
      findLoop (gen fun v ok => .ret (Go.Enc.enc (v, ok))) (fun val => (Go.Enc.dec val : V × Bool).2)
        (fun val => k (Go.Enc.dec val : V × Bool).1) 5 :=
  tr_find fe gen k fuel

/-- **`Filter` of /repo** (`filteredGen.value`, `filteredGen.maybeValue` and `find`, all translated) **is the `.filter` case of
    the model's generators**, for every inner generator and predicate -/
theorem source_filter (fe : Go.FEval) (e : Env) (lab : Bool) (g : Gen) (p : Val → Bool) (fuel : Nat) :
    RunEq (Translated.filteredGen_value fe (fun k' => (wrapValue (g.lbl lab) (g.body e lab)) >>- k') p (fuel + 6) fun v => .ret v)
      ((Gen.filter g p).body e lab) := by
  show RunEq _ (findLoop _ _ _ 5)
  refine tr_filter fe (wrapValue (g.lbl lab) (g.body e lab)) p fuel _ ?_
  intro v t; rfl

/-- `Filter` never yields a value its predicate refuses — for the translated source -/
theorem source_filter_contract (fe : Go.FEval) (e : Env) (lab : Bool) (g : Gen) (p : Val → Bool) (fuel : Nat) (src : Src) (ts : TS) (v : Val)
    (h : ((Translated.filteredGen_value fe (fun k' => (wrapValue (g.lbl lab) (g.body e lab)) >>- k') p (fuel + 6) fun v => .ret v).run src ts).res = .ok v) :
    p v = true := by
  rw [source_filter fe e lab g p fuel src ts] at h
  exact filter_pred e lab g p src ts v h

/-- **`Custom` of /repo**: `customGen.value` is `find` over `maybeValue`; with the model's `maybeValue` (fresh `T`, deferred
    cleanups, recovered invalid data — not translated) in its place it is the `.custom` case of the model -/
theorem source_custom_value (fe : Go.FEval) (e : Env) (lab : Bool) (body : Prog) (fuel : Nat) :
    RunEq (Translated.customGen_value fe
        (fun k' => (Prog.inner (.catchInv body fun o _ => .ret (match o with | some v => .cons v .nil | none => .nil)) .ret) >>- fun r =>
          if r != .nil then k' (match r with | .cons v _ => v | _ => .nil) true else k' (default : Val) false)
        (fuel + 6) fun v => .ret v)
      ((Gen.custom body).body e lab) := by
  show RunEq _ (findLoop _ _ _ 5)
  refine tr_custom fe _ fuel _ ?_ ?_
  · intro v t; rfl
  · intro r hr
    cases r with
    | cons v t => exact absurd rfl (hr v t)
    | int i => rfl
    | bool b => rfl
    | nil => rfl

/-- `Map` of /repo is the `.map` case of the model (an equality of programs) -/
theorem source_map (fe : Go.FEval) (e : Env) (lab : Bool) (g : Gen) (f : Val → Val) (fuel : Nat) :
    Translated.mappedGen_value fe (fun k' => (wrapValue (g.lbl lab) (g.body e lab)) >>- k') f fuel (fun v => .ret v) =
      (Gen.map g f).body e lab := by
  rfl

/-- **`SampledFrom` of /repo** (and `Just`): an index from `genIndex(len(slice), true)`, then `slice[i]` — run for run the
    model's `index` followed by the element (the runtime panic of an index out of range is never reached) -/
theorem source_sampled {E : Type} [Go.Enc E] [Inhabited E] (fe : Go.FEval) (ft : FT) (H : FloatFacts fe ft) (slice : List E)
    (h0 : 0 < slice.length) (hl : slice.length < 2 ^ 62) (fuel : Nat) (k : E → Prog) :
    RunEq (Translated.sampledGen_value fe slice fuel k) (index ft slice.length true fuel fun i => k (slice[i]?.getD default)) :=
  (tr_sampled fe ft H slice hl fuel k).trans (index_congr ft _ true fuel h0 (by omega) _ _ fun i hi => by
    simp only [List.getElem?_eq_getElem hi, Option.getD_some]; exact RunEq.refl _)

/-- … over the list of the indices themselves it is the `.sampled` case of the model's generators -/
theorem source_sampled_model (fe : Go.FEval) (e : Env) (H : FloatFacts fe e.ft) (lab : Bool) (n : Nat) (h0 : 0 < n) (hl : n < 2 ^ 62) :
    RunEq (Translated.sampledGen_value fe ((List.range n).map fun (i : Nat) => Val.int i) e.fuel fun v => .ret v)
      ((Gen.sampled n).body e lab) := by
  have hlen : ((List.range n).map fun (i : Nat) => Val.int i).length = n := by rw [List.length_map, List.length_range]
  have := (tr_sampled fe e.ft H _ (by rwa [hlen]) e.fuel fun v => .ret v).trans
    (index_congr e.ft _ true e.fuel (by rwa [hlen]) (by omega) _ (fun i => .ret (.int i)) fun i hi => by
      simp only [List.getElem?_eq_getElem hi, List.getElem_map, List.getElem_range]; exact RunEq.refl _)
  rwa [hlen] at this

/-- **`OneOf` of /repo**: an index from `genIndex(len(gens), true)`, then a draw from `gens[i]` — the `.oneOf` case of the
    model's generators -/
theorem source_oneOf (fe : Go.FEval) (e : Env) (H : FloatFacts fe e.ft) (lab : Bool) (n : Nat) (g : Nat → Gen) (h0 : 0 < n) (hl : n < 2 ^ 62) :
    RunEq (Translated.oneOfGen_value fe ((List.range n).map fun i => fun k' => (wrapValue ((g i).lbl lab) ((g i).body e lab)) >>- k')
        e.fuel fun v => .ret v)
      ((Gen.oneOf n g).body e lab) := by
  have hlen : ((List.range n).map fun i => fun k' => (wrapValue ((g i).lbl lab) ((g i).body e lab)) >>- k').length = n := by
    rw [List.length_map, List.length_range]
  have := (tr_oneOf fe e.ft H _ (by rwa [hlen]) e.fuel fun v => .ret v).trans
    (index_congr e.ft _ true e.fuel (by rwa [hlen]) (by omega) _ (fun i => wrapValue ((g i).lbl lab) ((g i).body e lab)) fun i hi => by
      simp only [List.getElem?_eq_getElem hi, List.getElem_map, List.getElem_range]; exact bind_ret_runEq _)
  rwa [hlen] at this

/-- the loop every collection generator writes around `repeat.more` (`for r.more(s) { … r.reject() … }`), started from
    `newRepeat`, is the model's `repeatLoop`: for every body, source of words and `*T` state the result, the rest of the
    source, the recorded tokens, the events and the overrun flag are the model's (or the model ran out of fuel: the
    deadline).  `pc` is the loop's `pContinue` as a float64 bit pattern and `c.thr` the threshold the model uses for it
    (`hcp`: the float facts the correspondence check tests on the runtime table). -/
theorem source_repeat_loop (fe : Go.FEval) (ft : FT) (HB : FloatFactsBits fe ft) (c : RCfg) (pc : UInt64)
    (hcp : Go.CoinOK fe (.ofBits pc) c.thr) (hmin : c.minC < 2 ^ 62) (hmax : c.maxC < 2 ^ 63) (step : Val → Prog)
    (hshape : StepShape step) (cf fuel : Nat) (hfuel : fuel < 2 ^ 59) (acc : Val) (src : Src) (ts : TS) :
    ((repeatLoop c step (fun a => .ret a) fuel {} acc).run src ts).res = .error .fuel ∨
    (Go.StM.run (Go.repeatWhile fe step cf fuel (Go.RS.fresh c pc) acc) (Go.StState.fresh src ts)).core =
      Go.outCore ((repeatLoop c step (fun a => .ret a) fuel {} acc).run src ts) :=
  Go.tr_repeat fe ft HB c pc hcp hmin hmax step hshape cf fuel hfuel acc src ts

/-- so the number of elements the *source's* loop has accepted when it hands its accumulator on lies between `minCount`
    and `maxCount` (`m` measures the accumulator; every accepted element adds one) -/
theorem source_repeat_count (fe : Go.FEval) (ft : FT) (HB : FloatFactsBits fe ft) (c : RCfg) (pc : UInt64)
    (hcp : Go.CoinOK fe (.ofBits pc) c.thr) (hmin : c.minC < 2 ^ 62) (hmax : c.maxC < 2 ^ 63) (hmm : c.minC ≤ c.maxC)
    (step : Val → Prog) (hshape : StepShape step) (m : Val → Nat)
    (hstep : ∀ acc src ts a, ((step acc).run src ts).res = .ok (rAcc a) → m a = m acc + 1)
    (cf fuel : Nat) (hfuel : fuel < 2 ^ 59) (acc : Val) (hm : m acc = 0) (src : Src) (ts : TS)
    (hdl : ((repeatLoop c step (fun a => .ret a) fuel {} acc).run src ts).res ≠ .error .fuel) (a : Val)
    (hres : (Go.StM.run (Go.repeatWhile fe step cf fuel (Go.RS.fresh c pc) acc) (Go.StState.fresh src ts)).core.res = .ok a) :
    c.minC ≤ m a ∧ m a ≤ c.maxC := by
  rcases source_repeat_loop fe ft HB c pc hcp hmin hmax step hshape cf fuel hfuel acc src ts with h | h
  · exact absurd h hdl
  · rw [h] at hres
    obtain ⟨_, ha, _, _, hv⟩ := (repeat_count c hmm step hshape m hstep fuel {} acc (Nat.zero_le _) hm).res hres
    exact ret_ok hv ▸ ha

/-- the hypotheses are satisfiable and the loop does run: two elements are forced (`minCount = 2`), then the coin stops it -/
example : ((repeatLoop ⟨2, 5, 4503599627370496, "x"⟩ (fun acc => .draw 8 fun w => .ret (rAcc (.cons (.int w.toNat) acc)))
    (fun a => .ret a) 9 {} .nil).run (.buf [0, 7, 0, 9, 0]) TS.fresh).res.toOption = some (.cons (.int 9) (.cons (.int 7) .nil)) := by decide +kernel

/-- the loop bodies that the collection, map and string generators put around `repeat.more` / `repeat.reject` (re-read from
    /repo on every run, statement by statement): each is the `repeatWhile` of `source_repeat_loop` — `for repeat.more(t.s) {
    element; if refused { repeat.reject() } else { keep it } }` from `newRepeat(min, max, -1, label)` on — with the element
    program and the refusal test that the model's `Gen.body` uses for it (a key seen before; a key already in the map; a rune
    that is not encodable or does not fit into `maxLen` bytes).  The set of keys seen is a local of the call (S97/S164 moved
    it onto the generator). -/
theorem slice_loop_source : Rapid.Generated.body_sliceGen_value =
    ["{", "repeat := newRepeat(g.minLen, g.maxLen, -1, g.elem.String())", "var seen map[K]struct{}",
     "if g.keyFn != nil {", "seen = make(map[K]struct{}, repeat.avg())", "}", "sl := make([]E, 0, repeat.avg())",
     "for repeat.more(t.s) {", "e := g.elem.value(t)", "if g.keyFn == nil {", "sl = append(sl, e)", "} else {",
     "k := g.keyFn(e)", "if _, ok := seen[k]; ok {", "repeat.reject()", "} else {", "seen[k] = struct{}{}",
     "sl = append(sl, e)", "}", "}", "}", "return sl", "}"] := rfl

theorem map_loop_source : Rapid.Generated.body_mapGen_value =
    ["{", "label := g.val.String()", "if g.key != nil {", "label = g.key.String() + \",\" + label", "}",
     "repeat := newRepeat(g.minLen, g.maxLen, -1, label)", "m := make(map[K]V, repeat.avg())",
     "for repeat.more(t.s) {", "var k K", "var v V", "if g.key != nil {", "k = g.key.value(t)", "v = g.val.value(t)",
     "} else {", "v = g.val.value(t)", "k = g.keyFn(v)", "}", "if _, ok := m[k]; ok {", "repeat.reject()",
     "} else {", "m[k] = v", "}", "}", "return m", "}"] := rfl

theorem string_loop_source : Rapid.Generated.body_stringGen_value =
    ["{", "repeat := newRepeat(g.minRunes, g.maxRunes, -1, g.elem.String())", "var b strings.Builder",
     "b.Grow(repeat.avg())", "maxLen := g.maxLen", "if maxLen < 0 {", "maxLen = math.MaxInt", "}",
     "for repeat.more(t.s) {", "r := g.elem.value(t)", "n := utf8.RuneLen(r)", "if n < 0 || b.Len()+n > maxLen {",
     "repeat.reject()", "} else {", "b.WriteRune(r)", "}", "}", "return b.String()", "}"] := rfl

theorem small_source : Rapid.Generated.c_small = small.toNat := rfl

/-- the bounds of every integer kind (the sized generators differ from the modelled 64-bit ones
    only by this table): each kind spans exactly its Go type -/
theorem integer_kinds_source : Rapid.Generated.src_integerKinds =
    ["byteKind: size=1 umax=math.MaxUint8",
     "intKind: signed=true size=intSize / 8 smin=math.MinInt smax=math.MaxInt",
     "int8Kind: signed=true size=1 smin=math.MinInt8 smax=math.MaxInt8",
     "int16Kind: signed=true size=2 smin=math.MinInt16 smax=math.MaxInt16",
     "int32Kind: signed=true size=4 smin=math.MinInt32 smax=math.MaxInt32",
     "int64Kind: signed=true size=8 smin=math.MinInt64 smax=math.MaxInt64",
     "uintKind: size=uintSize / 8 umax=math.MaxUint",
     "uint8Kind: size=1 umax=math.MaxUint8",
     "uint16Kind: size=2 umax=math.MaxUint16",
     "uint32Kind: size=4 umax=math.MaxUint32",
     "uint64Kind: size=8 umax=math.MaxUint64",
     "uintptrKind: size=uintptrSize / 8 umax=maxUintptr"] := rfl

/-! make.go is outside the model (reflection): its functions are re-read from /repo statement by statement — the generator chosen
  for every kind, the cast to the named type, pointers, arrays, slices, structs -/

theorem make_kind_source : Rapid.Generated.body_newMakeKindGen =
    ["{", "switch typ.Kind() {", "case reflect.Bool:", "return Bool().AsAny(), true", "case reflect.Int:",
     "return Int().AsAny(), true", "case reflect.Int8:", "return Int8().AsAny(), true", "case reflect.Int16:",
     "return Int16().AsAny(), true", "case reflect.Int32:", "return Int32().AsAny(), true", "case reflect.Int64:",
     "return Int64().AsAny(), true", "case reflect.Uint:", "return Uint().AsAny(), true", "case reflect.Uint8:",
     "return Uint8().AsAny(), true", "case reflect.Uint16:", "return Uint16().AsAny(), true", "case reflect.Uint32:",
     "return Uint32().AsAny(), true", "case reflect.Uint64:", "return Uint64().AsAny(), true",
     "case reflect.Uintptr:", "return Uintptr().AsAny(), true", "case reflect.Float32:",
     "return Float32().AsAny(), true", "case reflect.Float64:", "return Float64().AsAny(), true",
     "case reflect.Array:", "return genAnyArray(typ), false", "case reflect.Map:", "return genAnyMap(typ), false",
     "case reflect.Pointer:", "return Deferred(func() *Generator[any] { return genAnyPointer(typ) }), false",
     "case reflect.Slice:", "return genAnySlice(typ), false", "case reflect.String:",
     "return String().AsAny(), true", "case reflect.Struct:", "return genAnyStruct(typ), false", "default:",
     "panic(fmt.Sprintf(\"unsupported type kind for Make: %v\", typ.Kind()))", "}", "}"] := by rfl

theorem make_pointer_source : Rapid.Generated.body_genAnyPointer =
    ["{", "elem := typ.Elem()", "elemGen := newMakeGen(elem)", "const pNonNil = 0.5",
     "return Custom[any](func(t *T) any {", "if flipBiasedCoin(t.s, pNonNil) {", "val := elemGen.value(t)",
     "ptr := reflect.New(elem)", "ptr.Elem().Set(reflect.ValueOf(val))", "return ptr.Interface()", "} else {",
     "return reflect.Zero(typ).Interface()", "}", "})", "}"] := by rfl

theorem make_array_source : Rapid.Generated.body_genAnyArray =
    ["{", "count := typ.Len()", "elemGen := newMakeGen(typ.Elem())", "return Custom[any](func(t *T) any {",
     "a := reflect.Indirect(reflect.New(typ))", "if count == 0 {", "t.s.drawBits(0)", "} else {",
     "for i := 0; i < count; i++ {", "e := reflect.ValueOf(elemGen.value(t))", "a.Index(i).Set(e)", "}", "}",
     "return a.Interface()", "})", "}"] := by rfl

theorem make_slice_source : Rapid.Generated.body_genAnySlice =
    ["{", "elemGen := newMakeGen(typ.Elem())", "return Custom[any](func(t *T) any {",
     "repeat := newRepeat(-1, -1, -1, elemGen.String())", "sl := reflect.MakeSlice(typ, 0, repeat.avg())",
     "for repeat.more(t.s) {", "e := reflect.ValueOf(elemGen.value(t))", "sl = reflect.Append(sl, e)", "}",
     "return sl.Interface()", "})", "}"] := by rfl

theorem make_struct_source : Rapid.Generated.body_genAnyStruct =
    ["{", "numFields := typ.NumField()", "fieldGens := make([]*Generator[any], numFields)",
     "for i := 0; i < numFields; i++ {", "fieldGens[i] = newMakeGen(typ.Field(i).Type)", "}",
     "return Custom[any](func(t *T) any {", "s := reflect.Indirect(reflect.New(typ))", "if numFields == 0 {",
     "t.s.drawBits(0)", "} else {", "for i := 0; i < numFields; i++ {",
     "f := reflect.ValueOf(fieldGens[i].value(t))", "s.Field(i).Set(f)", "}", "}", "return s.Interface()", "})", "}"] := by rfl

theorem make_cast_source : Rapid.Generated.body_castGen_value =
    ["{", "v := g.gen.value(t)", "return reflect.ValueOf(v).Convert(g.typ).Interface()", "}"] := by rfl

/-- `genAnyMap` re-read from /repo statement by statement: a key that is already in the map rejects the attempt *before* anything is stored (S192 stored first) -/
theorem make_map_source : Rapid.Generated.body_genAnyMap =
    ["{", "keyGen := newMakeGen(typ.Key())", "valGen := newMakeGen(typ.Elem())",
     "return Custom[any](func(t *T) any {", "label := keyGen.String() + \",\" + valGen.String()",
     "repeat := newRepeat(-1, -1, -1, label)", "m := reflect.MakeMapWithSize(typ, repeat.avg())",
     "for repeat.more(t.s) {", "k := reflect.ValueOf(keyGen.value(t))", "v := reflect.ValueOf(valGen.value(t))",
     "if m.MapIndex(k).IsValid() {", "repeat.reject()", "} else {", "m.SetMapIndex(k, v)", "}", "}",
     "return m.Interface()", "})", "}"] := by rfl

/-- `permGen.value` re-read from /repo statement by statement: a copy of the input is shuffled -/
theorem perm_source : Rapid.Generated.body_permGen_value =
    ["{", "s := append(S(nil), g.slice...)", "n := len(s)", "m := n - 1", "if m < 0 {", "m = 0", "}",
     "repeat := newRepeat(0, m, math.MaxInt, \"permute\")", "for i := 0; repeat.more(t.s); i++ {",
     "j, _, _ := genUintRange(t.s, uint64(i), uint64(n-1), false)", "s[i], s[j] = s[j], s[i]", "}", "return s", "}"] := by rfl

/-- `ptrGen.value` re-read from /repo statement by statement -/
theorem ptr_source : Rapid.Generated.body_ptrGen_value =
    ["{", "pNonNil := float64(1)", "if g.allowNil {", "pNonNil = 0.5", "}", "if flipBiasedCoin(t.s, pNonNil) {",
     "e := g.elem.value(t)", "return &e", "} else {", "return nil", "}", "}"] := by rfl

end Rapid.C03
