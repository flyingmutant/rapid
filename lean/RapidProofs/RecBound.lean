/-
  RapidProofs.RecBound — L-rec≤: on a buffer a run consumes a prefix, records each consumed
  word masked (hence ≤ the word), and the pruned recording is a sub-sequence of the
  recording.  Consequence: the (pruned) recording is never larger than the buffer in
  `compareData` order — the assertion `compareData(s.rec.data, buf) <= 0` of `accept`.  Also: once a buffer has been
  overrun it is empty (`overran_src`), and a run on an empty buffer records nothing (`run_empty`).
-/
import RapidProofs.Once
import RapidProofs.RunForest
import RapidProofs.Shortlex

namespace Rapid

/-- pointwise `≤` of lists of one length: what a run records against the words it consumed (`Runs.consumed`) -/
inductive Ptw : List UInt64 → List UInt64 → Prop
  | nil : Ptw [] []
  | cons {x y : UInt64} {xs ys : List UInt64} : x ≤ y → Ptw xs ys → Ptw (x :: xs) (y :: ys)

theorem Ptw.length_eq {a b : List UInt64} (h : Ptw a b) : a.length = b.length := by
  induction h with
  | nil => rfl
  | cons _ _ ih => exact congrArg (· + 1) ih

theorem Ptw.append : ∀ {a b c d : List UInt64}, Ptw a b → Ptw c d → Ptw (a ++ c) (b ++ d) := by
  intro a b c d h h'
  induction h with
  | nil => exact h'
  | cons hxy _ ih => exact .cons hxy ih

theorem Runs.consumed {src : Src} {ts : TS} {o : Out} (h : Runs src ts o) : ∀ ws, src = .buf ws →
    ∃ consumed rest, ws = consumed ++ rest ∧ o.src = .buf rest ∧ Ptw o.used consumed := by
  induction h with
  | leaf | overrun => exact fun ws h => ⟨[], ws, rfl, h, .nil⟩
  | @draw _ _ _ n _ _ h _ ih =>
    rintro (_ | ⟨w, ws⟩) rfl <;> cases h
    obtain ⟨c, r, rfl, hs, hp⟩ := ih ws rfl
    exact ⟨w :: c, r, rfl, hs, .cons (mask_le n w) hp⟩
  | step _ _ ih | groupAbort _ _ _ _ ih | innerStop _ _ _ ih => exact ih
  | groupDone _ _ _ _ _ _ ih ih2 | seq _ _ ih ih2 | innerDone _ _ ih ih2 =>
    intro ws hs
    obtain ⟨c, r, rfl, hs, hp⟩ := ih ws hs
    obtain ⟨c2, r2, rfl, hs2, hp2⟩ := ih2 r hs
    exact ⟨c ++ c2, r2, (List.append_assoc ..).symm, hs2, hp.append hp2⟩

theorem kept_sublist (p : Prog) (src : Src) (ts : TS) : (p.run src ts).kept.Sublist (p.run src ts).used := by
  obtain ⟨F, h, _⟩ := run_forest p src ts
  rw [← h.kept, ← h.used]
  exact Forest.pwords_sublist F

theorem Ptw.numeral_le {a b : List UInt64} (h : Ptw a b) : numeral a ≤ numeral b := by
  induction h with
  | nil => exact Nat.le_refl _
  | cons h t ih =>
    simp only [numeral, t.length_eq]
    exact Nat.add_le_add (Nat.mul_le_mul_right _ (UInt64.le_iff_toNat_le.mp h)) ih

/-- **L-rec≤**: both the recording and the pruned recording of a run on `ws` are `≤ₛₗ ws` -/
theorem kept_sle (p : Prog) (ws : List UInt64) (ts : TS) :
    sle (p.run (.buf ws) ts).kept ws ∧ sle (p.run (.buf ws) ts).used ws := by
  obtain ⟨c, r, rfl, _, hf⟩ := (p.runs (.buf ws) ts).consumed ws rfl
  have hsub := kept_sublist p (.buf (c ++ r)) ts
  -- the recording is as long as what was consumed and pointwise below it; a sub-sequence of equal length is the whole
  have hused : sle (p.run (.buf (c ++ r)) ts).used (c ++ r) := by
    rw [sle_iff, List.length_append, hf.length_eq]
    cases r with
    | nil => exact .inr ⟨rfl, by simpa using hf.numeral_le⟩
    | cons => exact .inl (by simp)
  refine ⟨?_, hused⟩
  by_cases hl : (p.run (.buf (c ++ r)) ts).kept.length < (p.run (.buf (c ++ r)) ts).used.length
  · exact Int.le_of_lt (slt_of_slt_of_sle (slt_of_length_lt hl) hused)
  · rw [hsub.eq_of_length_le (by omega)]; exact hused

theorem checkOnce_kept_sle (p : Prog) (ws : List UInt64) (ts : TS) : sle (checkOnce p (.buf ws) ts).kept ws :=
  (kept_sle (bodyOf p) ws _).1

theorem next_none {src : Src} {n : Nat} (h : src.next n = none) : src = .buf [] := by
  cases src with
  | buf ws => cases ws with
    | nil => rfl
    | cons => cases h
  | rng x => simp only [Src.next] at h; split at h <;> cases h

/-- proved together: what follows an overrun runs on the empty buffer, and stays there by the first half -/
theorem Runs.empty {src : Src} {ts : TS} {o : Out} (h : Runs src ts o) :
    (src = .buf [] → o.used = [] ∧ o.src = .buf []) ∧ (o.overran = true → o.src = .buf []) := by
  induction h with
  | leaf => exact ⟨fun h => ⟨rfl, h⟩, nofun⟩
  | overrun _ h => exact ⟨fun h => ⟨rfl, h⟩, fun _ => next_none h⟩
  | draw h _ ih => exact ⟨fun hs => (by subst hs; cases h), ih.2⟩
  | step _ _ ih | groupAbort _ _ _ _ ih | innerStop _ _ _ ih => exact ih
  | groupDone _ _ _ _ _ _ ih ih2 | seq _ _ ih ih2 | innerDone _ _ ih ih2 =>
    refine ⟨fun hs => ?_, fun ho => ?_⟩
    · obtain ⟨h1, h2⟩ := ih.1 hs
      obtain ⟨h3, h4⟩ := ih2.1 h2
      exact ⟨by simp [h1, h3], h4⟩
    · simp only [after_overran, Bool.or_eq_true] at ho
      exact ho.elim (fun ho => (ih2.1 (ih.2 ho)).2) ih2.2

theorem run_empty (p : Prog) (ts : TS) :
    (p.run (.buf []) ts).used = [] ∧ (p.run (.buf []) ts).kept = [] ∧ (p.run (.buf []) ts).src = .buf [] := by
  obtain ⟨hu, hs⟩ := (p.runs (.buf []) ts).empty.1 rfl
  have hk := kept_sublist p (.buf []) ts
  rw [hu] at hk
  exact ⟨hu, List.eq_nil_of_sublist_nil hk, hs⟩

theorem overran_src (p : Prog) (src : Src) (ts : TS) : (p.run src ts).overran = true → (p.run src ts).src = .buf [] :=
  (p.runs src ts).empty.2

end Rapid
