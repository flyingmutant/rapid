/-
  C04 — draws are a pure function of the bitstream.

  * The model is a function: `checkOnce p src ts`, `findBug p checks seed early`, `doCheck …`
    have no hidden state, so "same seed, same run" is definitional in the model; what ties it
    to the code (history independence, no hidden globals) is the correspondence check, which
    runs every engine case on the implementation after unrelated work in the same process.
  * Replay as recorded: proved below for every program and every source (PRNG or buffer).
  * Replay with rejected attempts removed (pruned): `PS`, see RapidProofs/PruneStable.lean.
-/
import RapidModel.Generated.CallOrders
import RapidProofs.PruneProp
import RapidProofs.TranslatedFindEq
import RapidProofs.TranslatedRecEq
import RapidProofs.TranslatedRepeatEq

namespace Rapid.C04

/-- replaying the recorded words (followed by anything) reproduces the whole test case: error,
    recording, events, state of `*T`; the extra words are left unconsumed -/
theorem replay_as_recorded (p : Prog) (src : Src) (ts : TS) (xs : List UInt64)
    (h : (checkOnce p src ts).overran = false) :
    checkOnce p (.buf ((checkOnce p src ts).used ++ xs)) ts = { checkOnce p src ts with src := .buf xs } :=
  checkOnce_replay p src ts xs h

/-- the same at the level of one generator / sub-program: values included -/
theorem run_replay_as_recorded (p : Prog) (src : Src) (ts : TS) (xs : List UInt64)
    (h : (p.run src ts).overran = false) :
    p.run (.buf ((p.run src ts).used ++ xs)) ts = { p.run src ts with src := .buf xs } :=
  run_replay p src ts xs h

/-- **replay with the rejected attempts removed** (L-PS): for every generator expression without
    `Custom` — any nesting of integers, booleans, SampledFrom/OneOf, Filter, Map, slices, distinct
    slices, maps, pointers, permutations, Deferred, runes, strings — every source, every
    parameter: a run that ends in a value replays from its PRUNED recording (followed by
    anything) with the same value, the same `*T`, consuming exactly the pruned words -/
theorem generator_replays_pruned (e : Env) (hrt : RTPos e) (g : Gen) (hg : g.NoCustom) : PS (g.value e) :=
  (genLvl_value_ok e hrt 0 g hg).ps

/-- …and so does every property function built from such draws and the `*T` API -/
theorem property_replays_pruned (e : Env) (hrt : RTPos e) (p : Prog) (hp : PropProg e p) : PS p :=
  propProg_ps e hrt hp

/-- **generators with `Custom` functions, nested to any depth `d`**: every Custom function is a
    program over its inner `*T` that draws from generators of the level below (which may again be
    Custom), branches on what it drew, skips, panics, emits, asks for the context, registers quiet
    cleanups — but never calls `T.Error*/Fatal*` (that is the known finding D8) -/
theorem custom_generator_replays_pruned (e : Env) (hrt : RTPos e) (d : Nat) (g : Gen) (hg : GenLvl e d g) :
    PS (g.value e) := (genLvl_value_ok e hrt d g hg).ps

/-- a rejected Custom attempt leaves nothing behind on the `*T` of the test case -/
theorem custom_generator_leaves_T_alone (e : Env) (hrt : RTPos e) (d : Nat) (g : Gen) (hg : GenLvl e d g) :
    TsPure (g.value e) := (genLvl_value_ok e hrt d g hg).pure

/-- …and property functions over such generators -/
theorem property_with_custom_replays_pruned (e : Env) (hrt : RTPos e) (d : Nat) (p : Prog) (hp : PropProgC e d p) :
    PS p := propProgC_ps e hrt hp

/-- the class is inhabited at level 1: `Custom(func(t){ x := Filter(IntRange(0,3), …).Draw(t); if x == 0 { t.Skip() }; return x })` -/
example (e : Env) : GenLvl e 1 (.custom ((Gen.filter (.int 0 3) (fun v => v != .int 1)).draw e fun v =>
    if v == .int 0 then .throw (.invalid "skip") else .ret v)) := by
  show QuietProgOver e (GenLvl e 0) _
  refine QuietProgOver.draw _ _ trivial (fun v => ?_)
  split
  · exact QuietProgOver.skip _
  · exact QuietProgOver.ret _

/-- the loops behind it: `repeat` with rejections, minCount/maxCount and forced stop -/
theorem repeat_loop_replays_pruned (c : RCfg) (step : Val → Prog) (hthr : 0 < c.thr ∨ NoRej step)
    (hstep : ∀ acc, PS (step acc)) (hpure : ∀ acc, TsPure (step acc)) (hshape : StepShape step)
    (k : Val → Prog) (hk : ∀ acc, PS (k acc)) (fuel : Nat) (acc : Val) :
    PS (repeatLoop c step k fuel {} acc) :=
  (rep_repeatLoop hthr hstep hpure hshape hk fuel 0 {} {} acc ⟨rfl, rfl⟩ fun _ => rfl).ps

/-- the PRNG step of /repo (`jsf64ctx.rand`, translated from the source on every run) is the
    model's: value and new state, for every state -/
theorem source_jsf_rand (a b c d : UInt64) :
    Translated.jsfRand a b c d =
      ((Jsf.rand ⟨a, b, c, d⟩).1, ((Jsf.rand ⟨a, b, c, d⟩).2.a, (Jsf.rand ⟨a, b, c, d⟩).2.b, (Jsf.rand ⟨a, b, c, d⟩).2.c, (Jsf.rand ⟨a, b, c, d⟩).2.d)) :=
  tr_jsfRand a b c d

/-- `repeat.reject` of /repo (translated from the source on every run): it panics with "too many
    rejections" exactly when the model's loop raises invalid data, and otherwise leaves the counters
    and the forced-stop flag the model continues with -/
theorem source_repeat_reject (c rj mn : Nat) (f rej : Bool) (hc : c < 2 ^ 60) (hr : rj < 2 ^ 60) (hm : mn < 2 ^ 62)
    (cfg : RCfg) (hcfg : cfg.minC = mn) :
    Translated.repeatReject (Int64.ofNat (c + 1)) f (Int64.ofNat mn) rej (Int64.ofNat rj) =
      if tooManyRejections cfg ⟨c, rj, f⟩ then none
      else some (Int64.ofNat c, (f || decide (rj + 1 > c * 2)), Int64.ofNat mn, true, Int64.ofNat (rj + 1)) :=
  tr_repeatReject c rj mn f rej hc hr hm cfg hcfg

/-- **`bufBitStream.drawBits(n)` of /repo is `Src.next n`** on a buffer: the value (masked head word), the rest of
    the buffer, what is recorded; an empty buffer is `invalid data: overrun` -/
theorem source_bufBitStream_drawBits (buf data : List UInt64) (dl : Int64) (persist : Bool) (n : Nat) (hn : n < 2 ^ 62)
    (hb : buf.length < 2 ^ 62) :
    Translated.bufBitStream_drawBits buf data dl persist (Int64.ofNat n) =
      match (Src.buf buf).next n with
      | none => .error (.invalidData "overrun")
      | some (u, src') =>
        .ok (u, (match src' with | .buf b => b | .rng _ => []), if persist then data ++ [u] else data,
             if persist then dl else dl + 1, persist) :=
  tr_bufDrawBits buf data dl persist n hn hb

/-- **`randomBitStream.drawBits(n)` of /repo is `Src.next n`** on the PRNG: value, next state, what is recorded
    (more than 64 bits: all ones, the state untouched) -/
theorem source_randomBitStream_drawBits (x : Jsf) (data : List UInt64) (dl : Int64) (persist : Bool) (n : Nat) (hn : n < 2 ^ 62) :
    Translated.randomBitStream_drawBits x.a x.b x.c x.d data dl persist (Int64.ofNat n) =
      match (Src.rng x).next n with
      | none => .error .runtime
      | some (u, src') =>
        let y := match src' with | .rng y => y | .buf _ => x
        .ok (u, y.a, y.b, y.c, y.d, if persist then data ++ [u] else data, if persist then dl else dl + 1, persist) :=
  tr_rngDrawBits x data dl persist n hn

/-- the recording calls of /repo are the steps of `recGo`: `beginGroup` appends an open group that starts at the
    current data length and returns its index; `endGroup` closes group `i` at the current data length with the
    discard flag (or fails its assertion when the group recorded nothing and is kept) -/
theorem source_recording_calls (data : List UInt64) (groups : List Translated.groupInfo) (dl : Int64) (l : String) (s d : Bool)
    (i : Nat) (hd : data.length < 2 ^ 62) (hg : groups.length + 1 < 2 ^ 62) (hi : i < groups.length) :
    (∃ g, Translated.recordedBits_beginGroup data groups dl true l s =
        .ok (Int64.ofNat groups.length, data, groups ++ [g], dl, true) ∧ giOf g = ⟨l, s, data.length, -1, false⟩) ∧
    Translated.recordedBits_endGroup data groups dl true (Int64.ofNat i) d =
      (if d || decide (Go.glen data > (groups[i]).begin) then
        .ok (data, groups.modify i (fun g => { g with end_ := Go.glen data, discard := d }), dl, true)
      else .error .assertion) :=
  ⟨tr_beginGroup data groups dl l s hd hg, tr_endGroup data groups dl i d hi (by omega)⟩

/-- **the recording the source builds for any run is the model's**: the translated `record`, `beginGroup`, `endGroup`,
    called in the order of the run of any program on any bit source, never stop at the assertion of `endGroup` and
    leave the data and the group list of `recOfToks` (lengths below 2^62 words and 2^61 groups) -/
theorem source_recording_of_run (p : Prog) (src : Src) (ts : TS)
    (hd : (recOfToks (p.run src ts).toks).data.length < 2 ^ 62) (hg : (recOfToks (p.run src ts).toks).groups.length < 2 ^ 61) :
    srcRecGo (p.run src ts).toks [] [] [] =
      some ((recOfToks (p.run src ts).toks).data, (recOfToks (p.run src ts).toks).groups.map goOf) :=
  srcRecGo_of_run p src ts hd hg

/-- **every draw of every generator is recorded as the model says**: `Generator.value` of /repo (translated) wraps what the
    implementation draws in a standalone group labelled with the generator's `String()` — the model's `wrapValue`, which
    the theorems about replay, pruning and the passes of the shrinker build on -/
theorem source_generator_value (fe : Go.FEval) (W : Prog) (str : Option String) (fuel : Nat) (k : Val → Prog) :
    RunEq (Translated.Generator_value fe (fun k' => W >>- k') str fuel k) ((wrapValue (str.getD "") W) >>- k) :=
  tr_generator_value fe W str fuel k

/-- what the *source's* `repeat.more` / `repeat.reject` (translated on every run) record is what the model's loop records:
    the same groups with the same `discard` flags around the same words — the zero-bit coin of a forced stop included —, so
    that pruning the recording removes the same rejected attempts and the replay of the pruned words reads the same words
    (`repeat_loop_replays_pruned` above is about these tokens) -/
theorem source_repeat_records (fe : Go.FEval) (ft : FT) (HB : FloatFactsBits fe ft) (c : RCfg) (pc : UInt64)
    (hcp : Go.CoinOK fe (.ofBits pc) c.thr) (hmin : c.minC < 2 ^ 62) (hmax : c.maxC < 2 ^ 63) (step : Val → Prog)
    (hshape : StepShape step) (cf fuel : Nat) (hfuel : fuel < 2 ^ 59) (acc : Val) (src : Src) (ts : TS)
    (hdl : ((repeatLoop c step (fun a => .ret a) fuel {} acc).run src ts).res ≠ .error .fuel) :
    (Go.StM.run (Go.repeatWhile fe step cf fuel (Go.RS.fresh c pc) acc) (Go.StState.fresh src ts)).core.toks =
      ((repeatLoop c step (fun a => .ret a) fuel {} acc).run src ts).toks ∧
    (Go.StM.run (Go.repeatWhile fe step cf fuel (Go.RS.fresh c pc) acc) (Go.StState.fresh src ts)).core.src =
      ((repeatLoop c step (fun a => .ret a) fuel {} acc).run src ts).src := by
  rcases Go.tr_repeat fe ft HB c pc hcp hmin hmax step hshape cf fuel hfuel acc src ts with h | h
  · exact absurd h hdl
  · rw [h]; exact ⟨rfl, rfl⟩

/-- what a source hands out is already masked to the bits asked for: the reason a recording made from the PRNG reads back
    unchanged from a buffer, which masks each word again -/
theorem words_are_masked (s s' : Src) (n : Nat) (u : UInt64) (h : s.next n = some (u, s')) : mask n u = u :=
  next_masked h

/-- the state of a reused `*T` does not influence a test case -/
theorem independent_of_T (p : Prog) (src : Src) (ts : TS) (h : Clean ts) :
    (checkOnce p src ts).err = (checkOnce p src TS.fresh).err ∧
    (checkOnce p src ts).used = (checkOnce p src TS.fresh).used :=
  ⟨(checkOnce_clean p src h).1, (checkOnce_clean p src h).2.1⟩

example : (checkOnce (.draw 3 fun w => if w == 5 then Prog.fatal "five" 1 else .ret .nil) (.buf [13]) TS.fresh).err
    = some (.stop "five" 1) := rfl

/-- `genAnyMap` re-read from /repo statement by statement: a key that is already in the map rejects the attempt *before* anything is stored, so that the values of a run are the values of its pruned recording (S192 stored first) -/
theorem make_map_source : Rapid.Generated.body_genAnyMap =
    ["{", "keyGen := newMakeGen(typ.Key())", "valGen := newMakeGen(typ.Elem())",
     "return Custom[any](func(t *T) any {", "label := keyGen.String() + \",\" + valGen.String()",
     "repeat := newRepeat(-1, -1, -1, label)", "m := reflect.MakeMapWithSize(typ, repeat.avg())",
     "for repeat.more(t.s) {", "k := reflect.ValueOf(keyGen.value(t))", "v := reflect.ValueOf(valGen.value(t))",
     "if m.MapIndex(k).IsValid() {", "repeat.reject()", "} else {", "m.SetMapIndex(k, v)", "}", "}",
     "return m.Interface()", "})", "}"] := by rfl

/-- `Generator.Draw` re-read from /repo statement by statement: the value comes from `value(t)` alone; the label, the draw counter and the log line do not influence it -/
theorem draw_source : Rapid.Generated.body_Generator_Draw =
    ["{", "if t.tbLog {", "t.tb.Helper()", "}", "v := g.value(t)", "if len(t.refDraws) > 0 {",
     "ref := t.refDraws[t.draws]", "if !reflect.DeepEqual(v, ref) {",
     "t.tb.Fatalf(\"draw %v differs: %#v vs expected %#v\", t.draws, v, ref)", "}", "}",
     "if t.tbLog || t.rawLog != nil {", "if label == \"\" {", "label = fmt.Sprintf(\"#%v\", t.draws)", "}",
     "if t.tbLog {", "t.tb.Helper()", "}", "t.Logf(\"[rapid] draw %v: %#v\", label, v)", "}", "t.draws++",
     "return v", "}"] := by rfl

/-- `Generator.value` re-read from /repo statement by statement: a standalone group labelled with the generator around `impl.value(t)` -/
theorem generator_value_source : Rapid.Generated.body_Generator_value =
    ["{", "label := \"\"", "if s := g.str.Load(); s != nil {", "label = *s", "}", "i := t.s.beginGroup(label, true)",
     "v := g.impl.value(t)", "t.s.endGroup(i, false)", "return v", "}"] := by rfl

end Rapid.C04
