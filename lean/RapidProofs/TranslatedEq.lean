/-
  RapidProofs.TranslatedEq — the definitions translated from /repo's Go source on every run
  (RapidModel/Generated/Translated.lean) compute what the hand-written model computes: for
  `bitmask64`, `ufloatFracBits`, `ufloat64Parts`, `ufloat64FromParts` and their float32 variants, the
  two `switch` blocks and the bit-clearing loop of `genUfloatRange`, `jsf64ctx.rand`, `repeat.reject`
  (utils.go), and of engine.go the loop condition and seed step of `findBug` and the pass condition
  of `checkTB`, the tie between model and source is a theorem, not a sample.
-/
import RapidModel.Generated.Translated
import RapidProofs.FloatBits
import RapidProofs.GoLemmas

namespace Rapid

theorem tr_bitmask64 (n : UInt64) : Translated.bitmask64 n = bitmask64 n.toNat := by
  simp only [Translated.bitmask64, Go.shl64, bitmask64, ge_iff_le, UInt64.le_iff_toNat_le, UInt64.reduceToNat, Nat.toUInt64_eq,
    UInt64.ofNat_toNat]
  split <;> rfl

theorem tr_fracBits (e : Int32) (s : UInt64) : (Translated.ufloatFracBits e s).toNat = fracBits e.toInt s.toNat := by
  simp only [Translated.ufloatFracBits, fracBits, decide_eq_true_eq, Int32.le_iff_toInt_le, Int32.toInt_zero]
  split
  · rfl
  · have hx : e.toInt64.toUInt64.toNat = e.toInt.toNat := by
      rw [← Int32.toInt_toInt64]; exact i64_toUInt64_toNat (by rw [Int32.toInt_toInt64]; omega)
    simp only [UInt64.lt_iff_toNat_lt, hx]
    split
    · rw [UInt64.toNat_sub_of_le _ _ (by rw [UInt64.le_iff_toNat_le]; omega), hx]
    · rfl

theorem tr_jsfRand (a b c d : UInt64) :
    Translated.jsfRand a b c d =
      ((Jsf.rand ⟨a, b, c, d⟩).1, ((Jsf.rand ⟨a, b, c, d⟩).2.a, (Jsf.rand ⟨a, b, c, d⟩).2.b, (Jsf.rand ⟨a, b, c, d⟩).2.c, (Jsf.rand ⟨a, b, c, d⟩).2.d)) := by
  rfl

theorem tr_fracBits_le (e : Int32) (s : UInt64) : (Translated.ufloatFracBits e s).toNat ≤ s.toNat := by
  rw [tr_fracBits]; exact fracBits_le _ _

theorem tr_fracBits_ofNat (e : Int32) (s : UInt64) : (fracBits e.toInt s.toNat).toUInt64 = Translated.ufloatFracBits e s := by
  rw [← tr_fracBits]; exact UInt64.ofNat_toNat

theorem i32_exp_toInt {x : UInt32} {b : Int32} (hx : x.toNat < 2 ^ 30) (hb : 0 ≤ b.toInt ∧ b.toInt < 2 ^ 30) :
    (x.toInt32 - b).toInt = (x.toNat : Int) - b.toInt := by
  rw [Int32.toInt_sub, show x.toInt32.toInt = x.toNat from BitVec.toInt_eq_toNat_of_lt (by show 2 * x.toNat < 2 ^ 32; omega)]
  apply Int.bmod_eq_of_le <;> omega

/-- the integer and the fractional part of the significand `s`, as `ufloat32Parts` and `ufloat64Parts` end -/
theorem tr_signifParts (e : Int32) (S s : UInt64) (hS : S.toNat < 64) :
    (Go.shr64 s (Translated.ufloatFracBits e S), s &&& Translated.bitmask64 (Translated.ufloatFracBits e S)) =
      (s >>> (fracBits e.toInt S.toNat).toUInt64, s &&& bitmask64 (fracBits e.toInt S.toNat)) := by
  have := tr_fracBits_le e S
  rw [go_shr64_lt _ _ (by omega), tr_bitmask64, tr_fracBits_ofNat, tr_fracBits]

theorem tr_parts64 (f : UInt64) :
    ((Translated.ufloat64Parts f).1.toInt, (Translated.ufloat64Parts f).2.1, (Translated.ufloat64Parts f).2.2) = fmt64.parts f := by
  have hm : (9223372036854775807 : UInt64) = bitmask64 (fmt64.S + fmt64.E) := by decide
  simp only [Translated.ufloat64Parts, FFmt.parts, FFmt.mag, ← hm]
  generalize hu : f &&& 9223372036854775807 = u
  -- the exponent field is below 2^11, so the `int32` subtraction of the bias is the integers'
  have hx : (u >>> 52).toNat < 2 ^ 11 :=
    lt_of_eq_of_lt (shr_toNat u (n := 52) (by decide)) (Nat.div_lt_of_lt_mul (by rw [← hu, hm]; exact fmt64.mag_lt wf64 f))
  have hx32 : (u >>> 52).toUInt32.toNat = (u >>> 52).toNat := Nat.mod_eq_of_lt (Nat.lt_trans hx (by decide))
  rw [tr_signifParts _ 52 _ (by decide), tr_bitmask64 52, go_shr64_lt u 52 (by decide),
    show (Translated.bitmask64 10).toUInt32.toInt32 = 1023 by rw [tr_bitmask64]; decide, i32_exp_toInt (by omega) (by decide), hx32]
  rfl

theorem tr_fromParts64 (e : Int32) (si sf : UInt64) :
    Translated.ufloat64FromParts e si sf = fmt64.ufromParts e.toInt si sf := by
  have hle : _ ≤ 52 := tr_fracBits_le e 52
  have hall : bitmask64 (1 + fmt64.E + fmt64.S) = -1 := rfl
  simp only [Translated.ufloat64FromParts, FFmt.ufromParts]
  rw [hall, UInt64.and_neg_one, go_shl64_lt _ 52 (by decide), go_shl64_lt _ _ (by omega), tr_bitmask64, Int64.ofInt_int32ToInt]
  rw [← tr_fracBits_ofNat e 52]
  rfl

theorem i32_beq_iff (a b : Int32) : (a == b) = decide (a.toInt = b.toInt) :=
  (Bool.beq_eq_decide_eq a b).trans (decide_eq_decide.mpr Int32.toInt_inj.symm)

/-- the first `switch` of `genUfloatRange`: the bounds of the integer significand -/
theorem tr_switchSI (e : Int64) (fb S : UInt64) (l r : Bool) (maxExp minExp : Int32) (maxSI minSI F0 F1 : UInt64)
    (he : e.toInt32.toInt = e.toInt) (hfb : fb.toNat = fracBits e.toInt S.toNat) :
    Translated.ufloatSwitchSI e fb l maxExp maxSI minExp minSI r S =
      siBounds S.toNat (minExp.toInt, minSI, F0) (maxExp.toInt, maxSI, F1) e.toInt l r := by
  have hle : fb ≤ S := by rw [UInt64.le_iff_toNat_le, hfb]; exact fracBits_le _ _
  have hsub : (S - fb).toNat = S.toNat - fracBits e.toInt S.toNat := by rw [UInt64.toNat_sub_of_le _ _ hle, hfb]
  simp only [Translated.ufloatSwitchSI, siBounds, tr_bitmask64, hsub, i32_beq_iff, he, decide_eq_true_eq]

/-- the second `switch` of `genUfloatRange`: the bounds of the fractional significand -/
theorem tr_switchSF (e : Int64) (fb S : UInt64) (l r : Bool) (maxExp minExp : Int32) (maxSI minSI F0 F1 si : UInt64)
    (he : e.toInt32.toInt = e.toInt) (hfb : fb.toNat = fracBits e.toInt S.toNat) :
    Translated.ufloatSwitchSF e fb l maxExp F1 maxSI minExp F0 minSI r si =
      sfBounds S.toNat (minExp.toInt, minSI, F0) (maxExp.toInt, maxSI, F1) e.toInt l r si := by
  simp only [Translated.ufloatSwitchSF, sfBounds, tr_bitmask64, hfb, i32_beq_iff, he, Bool.and_eq_true, decide_eq_true_eq,
    beq_iff_eq]

/-! ### the float32 variants (computed in `uint32` in Go, in 64 bits with a final mask in the model) -/

theorem i32_ext_trunc (e : Int32) : e.toInt64.toUInt64.toUInt32 = e.toUInt32 := by
  have h : e.toInt64.toUInt64.toUInt32 = e.toInt64.toInt32.toUInt32 :=
    UInt32.toBitVec_inj.mp (BitVec.signExtend_eq_setWidth_of_le e.toInt64.toBitVec (by decide : 32 ≤ 64)).symm
  rw [h, Int32.toInt32_toInt64]

theorem u64_mod32_eq_mask (x : UInt64) : x % 4294967296 = x &&& bitmask64 32 := by
  apply UInt64.toNat_inj.mp
  rw [and_mask_toNat x (by decide), UInt64.toNat_mod]; rfl

theorem tr_fromParts32 (e : Int32) (si sf : UInt64) :
    (Translated.ufloat32FromParts e si sf).toUInt64 = fmt32.ufromParts e.toInt si sf := by
  have hle : _ ≤ 23 := tr_fracBits_le e 23
  have hlt32 : Translated.ufloatFracBits e 23 < 32 := by rw [UInt64.lt_iff_toNat_lt]; exact Nat.lt_of_le_of_lt hle (by decide)
  have key : (fracBits e.toInt fmt32.S).toUInt64 = Translated.ufloatFracBits e 23 := tr_fracBits_ofNat e 23
  simp only [FFmt.ufromParts]
  rw [show bitmask64 (1 + fmt32.E + fmt32.S) = bitmask64 32 from rfl, ← u64_mod32_eq_mask, ← UInt64.toUInt64_toUInt32]
  congr 1
  rw [UInt64.toUInt32_or, UInt64.toUInt32_or, UInt64.toUInt32_shiftLeft _ _ (by decide), key,
    UInt64.toUInt32_shiftLeft _ _ hlt32, UInt64.toUInt32_add, Int64.ofInt_int32ToInt, i32_ext_trunc]
  simp only [Translated.ufloat32FromParts]
  rw [go_shl32_lt _ 23 (by decide), go_shl32_lt _ _ (by omega), tr_bitmask64]
  rfl

theorem tr_parts32 (f : UInt32) :
    ((Translated.ufloat32Parts f).1.toInt, (Translated.ufloat32Parts f).2.1, (Translated.ufloat32Parts f).2.2) = fmt32.parts f.toUInt64 := by
  simp only [Translated.ufloat32Parts, FFmt.parts]
  generalize hu : f &&& 2147483647 = u
  have hm : u.toUInt64 = fmt32.mag f.toUInt64 := by rw [← hu, UInt32.toUInt64_and]; rfl
  -- the exponent field is below 2^8
  have hx : (u >>> (23 : UInt64).toUInt32).toNat = (u.toUInt64 >>> (23 : Nat).toUInt64).toNat := by
    rw [shr_toNat _ (by decide), UInt32.toNat_toUInt64, UInt32.toNat_shiftRight]; exact Nat.shiftRight_eq_div_pow _ _
  have hxlt : (u.toUInt64 >>> (23 : Nat).toUInt64).toNat < 2 ^ 8 := by
    rw [shr_toNat _ (by decide), hm]; exact Nat.div_lt_of_lt_mul (fmt32.mag_lt wf32 f.toUInt64)
  rw [tr_signifParts _ 23 _ (by decide), tr_bitmask64 23, go_shr32_lt u 23 (by decide),
    show (Translated.bitmask64 7).toUInt32.toInt32 = 127 by rw [tr_bitmask64]; decide, i32_exp_toInt (by omega) (by decide), hx, hm]
  rfl

/-- **`repeat.reject`**: after `more()` has counted the element (`count = c + 1`) a rejection either
    panics with "too many rejections" — exactly when the model's `tooManyRejections` says so — or
    leaves the state the model's loop continues with (forced stop included) -/
theorem tr_repeatReject (c rj mn : Nat) (f rej : Bool) (hc : c < 2 ^ 60) (hr : rj < 2 ^ 60) (hm : mn < 2 ^ 62)
    (cfg : RCfg) (hcfg : cfg.minC = mn) :
    Translated.repeatReject (Int64.ofNat (c + 1)) f (Int64.ofNat mn) rej (Int64.ofNat rj) =
      if tooManyRejections cfg ⟨c, rj, f⟩ then none
      else some (Int64.ofNat c, (f || decide (rj + 1 > c * 2)), Int64.ofNat mn, true, Int64.ofNat (rj + 1)) := by
  have e3 : Int64.ofNat c * 2 = Int64.ofNat (c * 2) := (Int64.ofNat_mul c 2).symm
  simp (disch := omega) only [Translated.repeatReject, i64_ofNat_pred, i64_ofNat_succ, e3, gt_iff_lt, ge_iff_le,
    Int64.ofNat_lt_iff_lt, Int64.ofNat_le_iff_le, decide_eq_true_eq, tooManyRejections, hcfg]
  by_cases h1 : c * 2 < rj + 1 <;> by_cases h2 : mn ≤ c <;> simp [h1, h2]

theorem findBugLoopCond_eq (valid invalid checks : Nat) (hv : valid < 2 ^ 63) (hi : invalid < 2 ^ 63) (hc : checks * 10 < 2 ^ 63) :
    Translated.findBugLoopCond (Int64.ofNat checks) (Int64.ofNat invalid) (Int64.ofNat valid) =
      decide (valid < checks ∧ invalid < checks * invalidChecksMult) := by
  have e3 : Int64.ofNat checks * 10 = Int64.ofNat (checks * invalidChecksMult) := (Int64.ofNat_mul checks 10).symm
  have hm : checks * invalidChecksMult < 2 ^ 63 := hc
  have hc' : checks < 2 ^ 63 := by omega
  simp (disch := assumption) only [Translated.findBugLoopCond, e3, Int64.ofNat_lt_iff_lt, Bool.decide_and]

/-- the loop condition of `findBug` is the model's (`findBugLoop`) -/
theorem tr_findBugLoopCond (valid invalid checks : Nat) (hv : valid < 2 ^ 58) (hi : invalid < 2 ^ 58) (hc : checks < 2 ^ 58) :
    Translated.findBugLoopCond (Int64.ofNat checks) (Int64.ofNat invalid) (Int64.ofNat valid) =
      decide (valid < checks ∧ invalid < checks * invalidChecksMult) :=
  findBugLoopCond_eq valid invalid checks (by omega) (by omega) (by omega)

/-- the pass condition of `checkTB` is the model's (`verdict`) -/
theorem tr_checkTBPassCond (valid checks : Nat) (early : Bool) (hv : valid < 2 ^ 58) (hc : checks < 2 ^ 58) :
    Translated.checkTBPassCond (Int64.ofNat checks) early (Int64.ofNat valid) =
      decide (valid = checks ∨ (early = true ∧ valid > 0)) := by
  simp (disch := omega) only [Translated.checkTBPassCond, i64_zero_ofNat, gt_iff_lt, Int64.ofNat_lt_iff_lt, i64_ofNat_beq,
    Bool.decide_or, Bool.decide_and, Bool.decide_eq_true]

/-- the seed of test case `iter` is the previous seed plus `iter` (`findBugLoop`) -/
theorem tr_findBugSeedStep (seed : UInt64) (iter : Nat) :
    Translated.findBugSeedStep (Int64.ofNat iter) seed = seed + UInt64.ofNat iter := by
  simp only [Translated.findBugSeedStep]
  congr 1

theorem tr_clearLoop_cnt (maxR : Int64) (r sfMin : UInt64) (hb : (maxR.toUInt64 - r).toNat ≤ 64) :
    ∀ (cnt fuel : Nat) (i sf : UInt64), i.toNat + cnt = (maxR.toUInt64 - r).toNat → cnt ≤ fuel →
      Translated.ufloatClearLoop maxR r sfMin fuel i sf = clearLow sfMin cnt i.toNat sf := by
  intro cnt
  induction cnt with
  | zero =>
    intro fuel i sf hi _
    cases fuel with
    | zero => rfl
    | succ f => rw [Translated.ufloatClearLoop, decide_eq_false (by rw [UInt64.lt_iff_toNat_lt]; omega)]; rfl
  | succ cnt ih =>
    intro fuel i sf hi hf
    cases fuel with
    | zero => omega
    | succ f =>
      have hg : i < maxR.toUInt64 - r := by rw [UInt64.lt_iff_toNat_lt]; omega
      have hi1 := u64_succ_toNat hg
      rw [Translated.ufloatClearLoop, decide_eq_true hg, if_pos rfl, clearLow, go_shl64_lt _ _ (by omega), Nat.toUInt64_eq,
        UInt64.ofNat_toNat]
      simp only [decide_eq_true_eq, ih f (i + 1) _ (by omega) (by omega), hi1]

theorem tr_clearLoop (maxR : Int64) (r sfMin : UInt64) (hb : (maxR.toUInt64 - r).toNat ≤ 64) :
    ∀ (fuel : Nat) (i sf : UInt64), i ≤ maxR.toUInt64 - r → ((maxR.toUInt64 - r) - i).toNat ≤ fuel →
      Translated.ufloatClearLoop maxR r sfMin fuel i sf = clearLow sfMin ((maxR.toUInt64 - r) - i).toNat i.toNat sf := by
  intro fuel i sf hi hf
  have := UInt64.toNat_sub_of_le _ _ hi
  rw [UInt64.le_iff_toNat_le] at hi
  exact tr_clearLoop_cnt maxR r sfMin hb _ fuel i sf (by omega) hf

end Rapid
