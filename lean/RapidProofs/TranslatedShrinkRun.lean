/-
  RapidProofs.TranslatedShrinkRun — the translated shrinker against rapid's own `accept`: `Script.run p` (RapidModel/Passes.lean)
  is `Script.exec` against the shrinker `runOracle p`; on the states of an invariant that `accept` keeps, the translated
  `shrinker.shrink` ends where `Script.run p (shrinkScript F)` ends (`tr_shrink_run`).
-/
import RapidProofs.TranslatedMinSEq
import RapidProofs.PassRefine

namespace Rapid
open Rapid.Go

def runOracle (p : Prog) : Oracle SS where
  view := fun s => ⟨s.rc, s.shrinks⟩
  accept := fun s buf => match s.accept p buf with | .ok r => some r | .error _ => none

/-- what `Script.run p` returns, given what `Script.exec` against `runOracle p` returns -/
def RunIs {α : Type} (p : Prog) (r : Res SS α) (x : Except Stop (α × SS)) : Prop :=
  match r with
  | .done a s' => x = .ok (a, s')
  | .oob s' => x = .error (.oob s'.log)
  | .stop s' buf => ∃ e, s'.accept p buf = .error e ∧ x = .error e

theorem run_eq_exec {α : Type} (p : Prog) (sc : Script α) : ∀ (s : SS), RunIs p (sc.exec (runOracle p) s) (sc.run p s) := by
  induction sc with
  | ret a => intro s; rfl
  | get k ih => exact fun s => ih _ s
  | try_ buf k ih =>
    intro s
    simp only [Script.run, Script.exec, runOracle]
    cases h : s.accept p buf with
    | error e => exact ⟨e, h, rfl⟩
    | ok r =>
      obtain ⟨b, s'⟩ := r
      exact ih b s'
  | oob => intro s; rfl

/-- an invariant of rapid's shrinker states that `accept` keeps and that implies what the translated passes assume -/
structure RunInv (p : Prog) (Inv : SS → Prop) : Prop where
  closed : ∀ s buf b s', Inv s → s.accept p buf = .ok (b, s') → Inv s'
  small : ∀ s, Inv s → Rec.Small s.rc
  ordered : ∀ s, Inv s → ∀ g ∈ s.rc.groups, 0 ≤ g.end_ → (g.begin : Int) ≤ g.end_
  shrinks : ∀ s, Inv s → s.shrinks < 2 ^ 62

theorem runOracle_accept {p : Prog} {s s' : SS} {buf : List UInt64} {b : Bool} (h : (runOracle p).accept s buf = some (b, s')) :
    s.accept p buf = .ok (b, s') := by
  cases hr : s.accept p buf with
  | ok r => simp only [runOracle, hr] at h; rw [Option.some.inj h]
  | error e => simp only [runOracle, hr] at h; cases h

open Classical in
/-- rapid's shrinker cut down to the states of `Inv`: outside of them there is nothing to see and `accept` does not return -/
noncomputable def invOracle (p : Prog) (Inv : SS → Prop) : Oracle SS where
  view := fun s => if Inv s then (runOracle p).view s else ⟨⟨[], []⟩, 0⟩
  accept := fun s buf => if Inv s then (runOracle p).accept s buf else none

theorem invOracle_view {p : Prog} {Inv : SS → Prop} (P : View → Prop) (h0 : P ⟨⟨[], []⟩, 0⟩) (h1 : ∀ s, Inv s → P ⟨s.rc, s.shrinks⟩)
    (s : SS) : P ((invOracle p Inv).view s) := by
  unfold invOracle; dsimp only
  split
  · exact h1 s ‹_›
  · exact h0

theorem invOracle_wf (p : Prog) (Inv : SS → Prop) (h : RunInv p Inv) : (invOracle p Inv).WF where
  small := invOracle_view (fun v => Rec.Small v.rc) ⟨by decide, by decide, fun _ hg => absurd hg List.not_mem_nil⟩ h.small
  ordered := invOracle_view (fun v => ∀ g ∈ v.rc.groups, 0 ≤ g.end_ → (g.begin : Int) ≤ g.end_) (fun _ hg => absurd hg List.not_mem_nil) h.ordered
  reject := fun s buf s' hacc => by
    unfold invOracle at hacc ⊢; dsimp only at hacc ⊢
    split at hacc
    · rename_i hs
      have hr := runOracle_accept hacc
      rw [if_pos hs, if_pos (h.closed s buf false s' hs hr)]
      -- a rejected candidate is at most logged and cached
      rcases SS.accept_false hr with ⟨rfl, _⟩ | ⟨rfl, _⟩ <;> rfl
    · cases hacc

theorem exec_inv {α : Type} (p : Prog) (Inv : SS → Prop) (h : RunInv p Inv) (sc : Script α) :
    ∀ s, Inv s → sc.exec (invOracle p Inv) s = sc.exec (runOracle p) s := by
  induction sc with
  | ret a => intro s _; rfl
  | get k ih => intro s hs; simp only [Script.exec, invOracle, if_pos hs]; exact ih _ s hs
  | try_ buf k ih =>
    intro s hs
    simp only [Script.exec, invOracle, if_pos hs]
    cases hr : (runOracle p).accept s buf with
    | none => rfl
    | some r => exact ih r.1 r.2 (h.closed s buf r.1 r.2 hs (runOracle_accept hr))
  | oob => intro s _; rfl

/-- what a run of the model's script is, given what the translated script did against rapid's own `accept` -/
def RunAgrees {α : Type} (p : Prog) (s0 : SS) (m : Script Unit) (rt : Res SS (Except Panic α)) : Prop :=
  match rt with
  | .done (.error .fuel) _ => True
  | .done (.ok _) s' => m.run p s0 = .ok ((), s')
  | .done (.error .runtime) s' => m.run p s0 = .error (.oob s'.log)
  | .stop s' buf => ∃ e, s'.accept p buf = .error e ∧ m.run p s0 = .error e
  | _ => False

theorem runAgrees_of_agree {α : Type} (p : Prog) (Inv : SS → Prop) (h : RunInv p Inv) (s0 : SS) (hs0 : Inv s0) (t : SM α) (m : Script Unit)
    (hag : Agree (fun _ _ => True) (SM.exec (invOracle p Inv) t s0) (m.exec (invOracle p Inv) s0)) :
    RunAgrees p s0 m (SM.exec (runOracle p) t s0) := by
  rw [show SM.exec (invOracle p Inv) t s0 = SM.exec (runOracle p) t s0 from exec_inv p Inv h t s0 hs0, exec_inv p Inv h m s0 hs0] at hag
  exact hag.elim (motive := fun rt rm => RunIs p rm (m.run p s0) → RunAgrees p s0 m rt)
    (fun _ _ => trivial) (fun _ _ _ _ hr => hr) (fun _ hr => hr) (fun _ _ hr => hr) (run_eq_exec p m s0)

/-- **the shrinker of /repo, as translated, against rapid's own `accept`**: on every property `p`, from every shrinker state
    that satisfies an invariant kept by `accept` (recordings of fewer than 2^62 words and 2^61 groups whose finished groups do
    not end before they begin), the translated `shrinker.shrink` with `fuel ≤ F` either runs out of fuel (a deadline cut), or it
    ends in the state in which `Script.run p (shrinkScript F)` ends — the run C05's `passes_refine_shrinkWith` and
    `concrete_shrinker_result` are about —, or both crash at the same out-of-range index, or both are stopped by the same
    failing `accept` -/
theorem tr_shrink_run (p : Prog) (Inv : SS → Prop) (h : RunInv p Inv) (s0 : SS) (hs0 : Inv s0) (F fuel : Nat) (hf : fuel ≤ F) :
    RunAgrees p s0 (shrinkScript F) (SM.exec (runOracle p) (Translated.shrinker_shrink fuel) s0) :=
  runAgrees_of_agree p Inv h s0 hs0 _ _
    (tr_shrink (invOracle p Inv) (invOracle_wf p Inv h) (invOracle_view (fun v => v.shrinks < 2 ^ 62) (by decide) h.shrinks) F fuel hf s0)

end Rapid
