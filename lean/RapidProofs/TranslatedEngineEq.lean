/-
  RapidProofs.TranslatedEngineEq — the generation loop `findBug` of engine.go, as translated from /repo on every run
  (RapidModel/Generated/Translated.lean, in `Go.EM`: seeding the stream of the reused `*T`, running one test case and the
  early-exit test are requests), run against the model's test case runner, computes the model's `findBug`
  (RapidModel/Engine.lean): the counters, the early-exit flag, the seed of the failing test case, the class of its error.
-/
import RapidProofs.TranslatedEq

namespace Rapid
open Rapid.Go

/-- who answers the requests of `findBug`: the reused `*T` with its stream, and the clock -/
structure EOracle (σ : Type) where
  init : σ → UInt64 → σ
  run : σ → ErrC × σ
  early : Int64 → Bool

def Go.EScript.exec {σ α : Type} (o : EOracle σ) : EScript α → σ → α × σ
  | .ret a, s => (a, s)
  | .init seed k, s => k.exec o (o.init s seed)
  | .checkOnce k, s => (k (o.run s).1).exec o (o.run s).2
  | .early i k, s => (k (o.early i)).exec o s

def EM.exec {σ α : Type} (o : EOracle σ) (x : EM α) (s : σ) : Except Panic α × σ := EScript.exec o x s

theorem Go.EScript.exec_bind {σ α β : Type} (o : EOracle σ) (x : EScript α) (f : α → EScript β) (s : σ) :
    (x.bind f).exec o s = (f (x.exec o s).1).exec o (x.exec o s).2 := by
  induction x generalizing s with
  | ret a => rfl
  | init seed k ih => exact ih _
  | checkOnce k ih => exact ih _ _
  | early i k ih => exact ih _ _

@[simp] theorem EM.exec_bind {σ α β : Type} (o : EOracle σ) (x : EM α) (f : α → EM β) (s : σ) :
    EM.exec o (x >>= f) s =
      match (EM.exec o x s).1 with
      | .ok a => EM.exec o (f a) (EM.exec o x s).2
      | .error e => (.error e, (EM.exec o x s).2) := by
  refine (EScript.exec_bind o x _ s).trans ?_
  unfold EM.exec
  cases (EScript.exec o x s).1 <;> rfl

@[simp] theorem EM.exec_pure {σ α : Type} (o : EOracle σ) (a : α) (s : σ) : EM.exec o (pure a : EM α) s = (.ok a, s) := rfl
@[simp] theorem EM.exec_fuel {σ α : Type} (o : EOracle σ) (s : σ) : EM.exec o (EM.fuel : EM α) s = (.error .fuel, s) := rfl
@[simp] theorem EM.exec_init {σ : Type} (o : EOracle σ) (seed : UInt64) (s : σ) : EM.exec o (EM.init seed) s = (.ok (), o.init s seed) := rfl
@[simp] theorem EM.exec_checkOnce {σ : Type} (o : EOracle σ) (s : σ) : EM.exec o EM.checkOnce s = (.ok (o.run s).1, (o.run s).2) := rfl
@[simp] theorem EM.exec_early {σ : Type} (o : EOracle σ) (i : Int64) (s : σ) : EM.exec o (EM.early i) s = (.ok (o.early i), s) := rfl

@[simp] theorem EM.exec_andThen {σ : Type} (o : EOracle σ) (a b : EM Bool) (s : σ) :
    EM.exec o (EM.andThen a b) s =
      match (EM.exec o a s).1 with
      | .ok x => if x then EM.exec o b (EM.exec o a s).2 else (.ok false, (EM.exec o a s).2)
      | .error e => (.error e, (EM.exec o a s).2) := by
  unfold EM.andThen
  rw [EM.exec_bind]
  cases (EM.exec o a s).1 with
  | ok x => cases x <;> rfl
  | error e => rfl

/-- what `findBug` looks at in the model's error -/
def errClass : Option Err → ErrC
  | none => .none
  | some e => if e.isInvalid then .invalid else .fail

/-- the model's test case runner as the oracle of `findBug`: the state is the reused `*T` and the seed its stream has -/
def modelEOracle (p : Prog) (early : Nat → Bool) : EOracle (TS × UInt64) where
  init := fun s seed => (s.1, seed)
  run := fun s => (errClass (checkOnce p (.rng (Jsf.init s.2)) s.1).err, ((checkOnce p (.rng (Jsf.init s.2)) s.1).ts, s.2))
  early := fun i => early i.toInt.toNat

/-- the result tuple of the source's `findBug` for the model's result -/
def fbT (fb : FB) : Int64 × Int64 × Bool × UInt64 × ErrC :=
  (Int64.ofNat fb.valid, Int64.ofNat fb.invalid, fb.early, fb.seed, errClass fb.err)

theorem errClass_none_iff (e : Option Err) : (errClass e == ErrC.none) = e.isNone := by
  cases e with
  | none => rfl
  | some x => unfold errClass; by_cases h : x.isInvalid = true <;> simp [h]

/-- an iteration up to the early-exit test (`iter > 0 && time.Until(deadline) < …`): `return` with `a`, or go on with `k` -/
theorem exec_earlyTest {β : Type} (p : Prog) (early : Nat → Bool) {n : Nat} (hn : n < 2 ^ 63) (a : β) (k : EM β) (s : TS × UInt64) :
    EM.exec (modelEOracle p early) (EM.andThen (pure (decide (Int64.ofNat n > 0))) (EM.early (Int64.ofNat n) >>= fun c => pure c) >>=
        fun c => if c = true then pure a else k) s =
      if n > 0 ∧ early n = true then (.ok a, s) else EM.exec (modelEOracle p early) k s := by
  have he : (modelEOracle p early).early (Int64.ofNat n) = early n := by
    simp only [modelEOracle, Int64.toInt_ofNat_of_lt hn, Int.toNat_natCast]
  simp only [EM.exec_bind, EM.exec_andThen, EM.exec_pure, EM.exec_early, he, i64_ofNat_pos hn]
  by_cases h : n > 0 <;> cases early n <;> simp [h]

/-- the rest of an iteration: the stream is seeded and the test case runs on the reused `*T` -/
theorem exec_testCase {β : Type} (p : Prog) (early : Nat → Bool) (sd : UInt64) (k : ErrC → EM β) (ts : TS) (sd0 : UInt64) :
    EM.exec (modelEOracle p early) (EM.init sd >>= fun _ => EM.checkOnce >>= k) (ts, sd0) =
      EM.exec (modelEOracle p early) (k (errClass (checkOnce p (.rng (Jsf.init sd)) ts).err)) ((checkOnce p (.rng (Jsf.init sd)) ts).ts, sd) := by
  simp only [EM.exec_bind, EM.exec_init, EM.exec_checkOnce]
  rfl

/-- the generation loop of `findBug` (`for valid < checks && invalid < checks*invalidChecksMult`) is the model's
    `findBugLoop`.  A translated loop hands back its variables, `r.1` = (invalid, seed, valid), and in `r.2` the result of
    a `return` executed inside the body, if any; the `getD` is what `findBug` then returns in either case.  `hsum`: the model's
    fuel covers what is left of the two budgets. -/
theorem tr_findBugLoop (p : Prog) (early : Nat → Bool) (checks : Nat) (hN : checks + checks * invalidChecksMult < 2 ^ 63)
    (fM valid invalid : Nat) (seed : UInt64) (ts : TS) (seeds : List UInt64) (sd0 : UInt64) (fT : Nat)
    (hv : valid ≤ checks) (hi : invalid ≤ checks * invalidChecksMult)
    (hsum : checks + checks * invalidChecksMult ≤ fM + valid + invalid) (hf : fM < fT) :
    ∃ r s', EM.exec (modelEOracle p early) (Translated.findBug_loop1 (Int64.ofNat checks) fT (Int64.ofNat invalid) seed (Int64.ofNat valid)) (ts, sd0) = (.ok r, s') ∧
      r.2.getD (r.1.2.2, r.1.1, false, 0, ErrC.none) = fbT (findBugLoop p checks early fM valid invalid seed ts seeds) := by
  have hC : checks < 2 ^ 63 := Nat.lt_of_le_of_lt (Nat.le_add_right ..) hN
  have hM : checks * invalidChecksMult < 2 ^ 63 := Nat.lt_of_le_of_lt (Nat.le_add_left ..) hN
  -- one unfolding of each loop per round; every `if` is decided for both at once
  induction fM generalizing valid invalid seed ts seeds sd0 fT with
  | zero =>
    obtain ⟨fT, rfl⟩ := Nat.exists_eq_add_one_of_ne_zero (Nat.ne_zero_of_lt hf)
    rw [Translated.findBug_loop1, ← Translated.findBugLoopCond,
      findBugLoopCond_eq _ _ _ (Nat.lt_of_le_of_lt hv hC) (Nat.lt_of_le_of_lt hi hM) hM, if_neg (by rw [decide_eq_true_eq]; omega)]
    exact ⟨_, _, rfl, rfl⟩
  | succ fM ih =>
    obtain ⟨fT, rfl⟩ := Nat.exists_eq_add_one_of_ne_zero (Nat.ne_zero_of_lt hf)
    rw [Translated.findBug_loop1, ← Translated.findBugLoopCond,
      findBugLoopCond_eq _ _ _ (Nat.lt_of_le_of_lt hv hC) (Nat.lt_of_le_of_lt hi hM) hM, findBugLoop]
    by_cases hcond : valid < checks ∧ invalid < checks * invalidChecksMult
    · rw [if_pos (decide_eq_true hcond), if_pos hcond]
      dsimp only
      rw [← Int64.ofNat_add, exec_earlyTest p early (Nat.lt_of_le_of_lt (Nat.add_le_add hv hi) hN)]
      by_cases hex : valid + invalid > 0 ∧ early (valid + invalid) = true
      · rw [if_pos hex, if_pos hex]
        exact ⟨_, _, rfl, rfl⟩
      · rw [if_neg hex, if_neg hex, Int64.toUInt64_ofNat', exec_testCase]
        -- in each case the script's tests of the error class are decided by evaluation
        cases (checkOnce p (.rng (Jsf.init (seed + UInt64.ofNat (valid + invalid)))) ts).err with
        | none =>
          rw [i64_ofNat_succ]
          exact ih _ _ _ _ _ _ _ hcond.1 hi (by omega) (Nat.lt_of_succ_lt_succ hf)
        | some e =>
          dsimp only
          by_cases hinv : e.isInvalid = true
          · rw [errClass, if_pos hinv, if_pos hinv, i64_ofNat_succ invalid]
            exact ih _ _ _ _ _ _ _ hv hcond.2 (by omega) (Nat.lt_of_succ_lt_succ hf)
          · rw [errClass, if_neg hinv, if_neg hinv]
            exact ⟨_, _, rfl, by rw [fbT, errClass, if_neg hinv]; rfl⟩
    · rw [if_neg (by rw [decide_eq_true_eq]; exact hcond), if_neg hcond]
      exact ⟨_, _, rfl, rfl⟩

/-- **`findBug` of /repo, as translated, computes the result of the model's `findBug`**: run against the model's test case runner
    (the reused `*T` is threaded through, the stream is re-seeded for every test case) it returns the model's numbers of valid and
    invalid test cases, its early-exit flag, the seed of the failing test case and the class of its error — for every property, every
    base seed and every behaviour of the clock -/
theorem tr_findBug (p : Prog) (early : Nat → Bool) (checks : Nat) (seed sd0 : UInt64) (fuel : Nat) (hc : checks < 2 ^ 56)
    (hf : checks + checks * invalidChecksMult < fuel) :
    ∃ s', EM.exec (modelEOracle p early) (Translated.findBug (Int64.ofNat checks) seed fuel) (TS.fresh, sd0) =
      (.ok (fbT (findBug p checks seed early)), s') := by
  obtain ⟨r, s', h1, h2⟩ := tr_findBugLoop p early checks (by unfold invalidChecksMult; omega) (checks + checks * invalidChecksMult) 0 0
    seed TS.fresh [] sd0 fuel (Nat.zero_le _) (Nat.zero_le _) (Nat.le_refl _) hf
  refine ⟨s', ?_⟩
  unfold Translated.findBug findBug
  simp only [EM.exec_bind, i64_zero_ofNat, h1]
  rw [← h2]
  cases r.2 <;> rfl

end Rapid
