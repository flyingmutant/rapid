/-
  RapidProofs.TranslatedProgEq — the functions of utils.go that work on the bit stream, as the
  translator puts them into Lean (RapidModel/Generated/Translated.lean, regenerated from /repo on
  every run), behave exactly like the hand-written model of RapidModel/Prim.lean: for every bit
  source and every `*T` state the two runs are equal (`RunEq`).

  Floating point is not interpreted by the translation.  The theorems need from the float
  evaluator exactly the facts collected in `FloatFacts`: what `flipBiasedCoin(p)` answers for
  p ∈ {0, 1, 0.5}, what `genGeom` returns for the 65 bias parameters, what `int(m)` is for them —
  the numbers measured on the real functions on every run (Generated/Thresholds.lean).
-/
import RapidModel.Generated.Translated
import RapidProofs.GoLemmas
import RapidProofs.RunEq

namespace Rapid

open Rapid.Go

@[simp] theorem dec_enc_u64 (u : UInt64) : (Enc.dec (Enc.enc u) : UInt64) = u := by
  simp [Enc.enc, Enc.dec]

@[simp] theorem dec_enc_i64 (i : Int64) : (Enc.dec (Enc.enc i) : Int64) = i := by
  simp [Enc.enc, Enc.dec]

@[simp] theorem dec_enc_bool (b : Bool) : (Enc.dec (Enc.enc b) : Bool) = b := by
  simp [Enc.enc, Enc.dec]

@[simp] theorem dec_enc_pair {α β : Type} [Enc α] [Enc β] (a : α) (b : β) :
    (Enc.dec (Enc.enc (a, b)) : α × β) = (Enc.dec (Enc.enc a), Enc.dec (Enc.enc b)) := by
  simp [Enc.enc, Enc.dec]

theorem valStr_strVal (cs : List Char) : valStr (cs.foldr (fun c acc => .cons (.int c.toNat) acc) .nil) = cs := by
  induction cs with
  | nil => rfl
  | cons c cs ih => simp [valStr, ih]

theorem valStr_strVal_string (s : String) : String.ofList (valStr (strVal s)) = s := by
  rw [strVal, valStr_strVal, String.ofList_toList]

@[simp] theorem ofVal_toVal (x : FX) : FX.ofVal x.toVal = x := by
  induction x with
  | lit s => exact congrArg FX.lit (valStr_strVal_string s)
  | ofU64 u => exact congrArg FX.ofU64 (by rw [Int.toNat_natCast, UInt64.ofNat_toNat])
  | ofBits b => exact congrArg FX.ofBits (by rw [Int.toNat_natCast, UInt64.ofNat_toNat])
  | ofI64 i => exact congrArg FX.ofI64 (Int64.ofInt_toInt i)
  | neg a ih => exact congrArg FX.neg ih
  | add a b iha ihb => exact congr (congrArg FX.add iha) ihb
  | sub a b iha ihb => exact congr (congrArg FX.sub iha) ihb
  | mul a b iha ihb => exact congr (congrArg FX.mul iha) ihb
  | div a b iha ihb => exact congr (congrArg FX.div iha) ihb
  | call1 f a ih => exact congr (congrArg FX.call1 (valStr_strVal_string f)) ih
  | call2 f a b iha ihb => exact congr (congr (congrArg FX.call2 (valStr_strVal_string f)) iha) ihb

@[simp] theorem dec_enc_fx (x : FX) : (Enc.dec (Enc.enc x) : FX) = x := ofVal_toVal x

theorem natOfInt_len64 (u : UInt64) : natOfInt (Go.len64 u) = len64 u :=
  natOfInt_ofNat (by have := len64_le_64 u; omega)

theorem natOfInt_53 : natOfInt (53 : Int64) = 53 := by decide

theorem tr_genUintNNoReject (fe : FEval) (max : UInt64) (fuel : Nat) (k1 k2 : UInt64 → Prog)
    (hk : ∀ u, RunEq (k1 u) (k2 u)) :
    RunEq (Translated.genUintNNoReject fe max fuel k1) (uintNoReject max k2) := by
  simp only [Translated.genUintNNoReject, uintNoReject, natOfInt_len64]
  refine RunEq.draw_group fun _ u _ _ => ⟨rfl, ?_⟩
  simp only [dec_enc_u64, vu_uv, decide_eq_true_eq]; exact hk _

theorem tr_genUintNUnbiased (fe : FEval) (max : UInt64) (fuel : Nat) (k1 k2 : UInt64 → Prog) (hk : ∀ u, RunEq (k1 u) (k2 u)) :
    RunEq (Translated.genUintNUnbiased fe max fuel k1) (uintUnbiased max k2 fuel) := by
  show RunEq (Translated.genUintNUnbiased_loop1 fe (Go.len64 max) max k1 fuel) _
  induction fuel with
  | zero => exact RunEq.refl _
  | succ fuel ih =>
    show RunEq (.group _ _ _ _ _) (.group _ _ _ _ _)
    simp only [natOfInt_len64]
    refine RunEq.draw_group fun _ u _ _ => ⟨?_, ?_⟩
    · simp only [dec_enc_pair, dec_enc_u64, dec_enc_bool, vu_uv, ← decide_not, UInt64.not_le]
    · simp only [dec_enc_pair, dec_enc_u64, dec_enc_bool, vu_uv, decide_eq_true_eq]
      exact RunEq.ite _ (fun _ => hk u) fun _ => ih

/-- `genFloat01` on the 53-bit word `w` -/
def f01 (w : UInt64) : FX := .mul (.ofU64 w) (.lit "0x1.0p-53")
/-- `m` of `genUintNBiased` -/
def biasMfx (bitlen : Int64) : FX := .call2 "math.Max" (.lit "8") (.div (.add (.ofI64 bitlen) (.lit "48")) (.lit "7"))
/-- the parameter `1/(m+1)` of its `genGeom` -/
def biasPfx (bitlen : Int64) : FX := .div (.lit "1") (.add (biasMfx bitlen) (.lit "1"))
/-- the value `genGeom` converts to an integer -/
def geomfx (w : UInt64) (p : FX) : FX := .div (.call1 "math.Log1p" (.neg (f01 w))) (.call1 "math.Log1p" (.neg p))

/-- The floating-point facts behind the model's thresholds (`FT`), in terms of the expressions of the
    source: `w` ranges over the 53-bit words `genFloat01` draws, `b` over the bit lengths 0..64. -/
structure FloatFacts (fe : FEval) (ft : FT) : Prop where
  /-- `assert(p >= 0 && p <= 1)` of `flipBiasedCoin` holds for the three constants -/
  coin_assert : ∀ p : String, p = "0" ∨ p = "1" ∨ p = "0.5" → fe.le (.lit "0") (.lit p) = true ∧ fe.le (.lit p) (.lit "1") = true
  coin0 : ∀ w : UInt64, w < thrNever → fe.le (.sub (.lit "1") (.lit "0")) (f01 w) = false
  coin1 : ∀ w : UInt64, w < thrNever → fe.le (.sub (.lit "1") (.lit "1")) (f01 w) = true
  coinHalf : ∀ w : UInt64, w < thrNever → fe.le (.sub (.lit "1") (.lit "0.5")) (f01 w) = decide (ft.coinHalf ≤ w)
  /-- `assert(p > 0 && p <= 1)` of `genGeom` holds for the bias parameters -/
  geom_assert : ∀ b : Nat, b ≤ 64 → fe.lt (.lit "0") (biasPfx (Int64.ofNat b)) = true ∧ fe.le (biasPfx (Int64.ofNat b)) (.lit "1") = true
  /-- `int(m)` -/
  biasM : ∀ b : Nat, b ≤ 64 → fe.toI64 (biasMfx (Int64.ofNat b)) = Int64.ofNat (biasM b)
  /-- `genGeom`: the table holds the first 65 break points (the value is capped at 65 there) -/
  geom : ∀ b : Nat, b ≤ 64 → ∀ w : UInt64, w < thrNever →
    (fe.toU64 (geomfx w (biasPfx (Int64.ofNat b)))).toNat < 2 ^ 32 ∧
    min (fe.toU64 (geomfx w (biasPfx (Int64.ofNat b)))).toNat 65 + 1 = geomN (ft.geom b) w

/-- the same facts about `flipBiasedCoin` when the probability arrives as a float64 *value* (floats.go
    hands over the constants 0, 1 and 0.5 in a variable): bit patterns 0, 0x3FF0…0, 0x3FE0…0 -/
structure FloatFactsBits (fe : FEval) (ft : FT) : Prop where
  coin_assert : ∀ p : UInt64, p = 0 ∨ p = 0x3FF0000000000000 ∨ p = 0x3FE0000000000000 →
    fe.le (.lit "0") (.ofBits p) = true ∧ fe.le (.ofBits p) (.lit "1") = true
  coin0 : ∀ w : UInt64, w < thrNever → fe.le (.sub (.lit "1") (.ofBits 0)) (f01 w) = false
  coin1 : ∀ w : UInt64, w < thrNever → fe.le (.sub (.lit "1") (.ofBits 0x3FF0000000000000)) (f01 w) = true
  coinHalf : ∀ w : UInt64, w < thrNever → fe.le (.sub (.lit "1") (.ofBits 0x3FE0000000000000)) (f01 w) = decide (ft.coinHalf ≤ w)

/-- what `fe` must know about the probability `p` for `flipBiasedCoin(s, p)` to be the model's coin with threshold `thr` -/
def Go.CoinOK (fe : FEval) (p : FX) (thr : UInt64) : Prop :=
  (fe.le (.lit "0") p = true ∧ fe.le p (.lit "1") = true) ∧
    ∀ w : UInt64, w < thrNever → fe.le (.sub (.lit "1") p) (f01 w) = decide (thr ≤ w)

theorem Go.CoinOK.never {fe : FEval} {p : FX} (ha : fe.le (.lit "0") p = true ∧ fe.le p (.lit "1") = true)
    (h : ∀ w : UInt64, w < thrNever → fe.le (.sub (.lit "1") p) (f01 w) = false) : CoinOK fe p thrNever :=
  ⟨ha, fun w hw => by rw [h w hw]; exact (decide_eq_false (UInt64.not_le.mpr hw)).symm⟩

theorem Go.CoinOK.always {fe : FEval} {p : FX} (ha : fe.le (.lit "0") p = true ∧ fe.le p (.lit "1") = true)
    (h : ∀ w : UInt64, w < thrNever → fe.le (.sub (.lit "1") p) (f01 w) = true) : CoinOK fe p thrAlways :=
  ⟨ha, fun w hw => by rw [h w hw]; exact (decide_eq_true (UInt64.zero_le : thrAlways ≤ w)).symm⟩

theorem FloatFacts.coinOK0 {fe : FEval} {ft : FT} (H : FloatFacts fe ft) : CoinOK fe (.lit "0") thrNever :=
  CoinOK.never (H.coin_assert "0" (.inl rfl)) H.coin0
theorem FloatFacts.coinOK1 {fe : FEval} {ft : FT} (H : FloatFacts fe ft) : CoinOK fe (.lit "1") thrAlways :=
  CoinOK.always (H.coin_assert "1" (.inr (.inl rfl))) H.coin1
theorem FloatFacts.coinOKHalf {fe : FEval} {ft : FT} (H : FloatFacts fe ft) : CoinOK fe (.lit "0.5") ft.coinHalf :=
  ⟨H.coin_assert "0.5" (.inr (.inr rfl)), H.coinHalf⟩
theorem FloatFactsBits.coinOK0 {fe : FEval} {ft : FT} (H : FloatFactsBits fe ft) : CoinOK fe (.ofBits 0) thrNever :=
  CoinOK.never (H.coin_assert _ (.inl rfl)) H.coin0
theorem FloatFactsBits.coinOK1 {fe : FEval} {ft : FT} (H : FloatFactsBits fe ft) : CoinOK fe (.ofBits 0x3FF0000000000000) thrAlways :=
  CoinOK.always (H.coin_assert _ (.inr (.inl rfl))) H.coin1
theorem FloatFactsBits.coinOKHalf {fe : FEval} {ft : FT} (H : FloatFactsBits fe ft) :
    CoinOK fe (.ofBits 0x3FE0000000000000) ft.coinHalf :=
  ⟨H.coin_assert _ (.inr (.inr rfl)), H.coinHalf⟩

theorem tr_coin (fe : FEval) (p : FX) (thr : UInt64) (fuel : Nat) (k1 k2 : Bool → Prog)
    (ha : fe.le (.lit "0") p = true ∧ fe.le p (.lit "1") = true)
    (hc : ∀ w : UInt64, w < thrNever → fe.le (.sub (.lit "1") p) (f01 w) = decide (thr ≤ w))
    (hk : ∀ b, RunEq (k1 b) (k2 b)) :
    RunEq (Translated.flipBiasedCoin fe p fuel k1) (coin thr k2) := by
  simp only [Translated.flipBiasedCoin, ha.1, ha.2, Bool.and_self, if_true, Translated.genFloat01, coin, natOfInt_53]
  refine RunEq.draw_group fun _ u _ h => ⟨rfl, ?_⟩
  have := hc u (next53_lt h)
  simp only [f01] at this
  simp only [dec_enc_fx, bool_beq_vTrue, this]; exact hk _

theorem Go.CoinOK.runEq {fe : FEval} {p : FX} {thr : UInt64} (h : CoinOK fe p thr) (fuel : Nat) (k1 k2 : Bool → Prog)
    (hk : ∀ b, RunEq (k1 b) (k2 b)) : RunEq (Translated.flipBiasedCoin fe p fuel k1) (coin thr k2) :=
  tr_coin fe p thr fuel k1 k2 h.1 h.2 hk

theorem geom_succ_toNat {g : UInt64} (hg : g.toNat < 2 ^ 32) : (g + 1).toNat = g.toNat + 1 :=
  u64_succ_toNat (b := 4294967296) (UInt64.lt_iff_toNat_lt.mpr hg)

/-- the loop: `n'` is the true geometric value + 1, `n` the model's (capped at 66) -/
theorem tr_biasedLoop {fe : FEval} {max : UInt64} {bl : Nat} (hbl : bl ≤ 65) {n' : UInt64} {n : Nat}
    (hn' : n'.toNat < 2 ^ 62) (hn : n = min n'.toNat 66)
    {k1 k2 : UInt64 → Bool → Bool → Prog} (hk : ∀ u l r, RunEq (k1 u l r) (k2 u l r)) (fuel : Nat) :
    RunEq (Translated.genUintNBiased_loop1 fe (Int64.ofNat bl) max n' k1 fuel) (uintBiasedLoop max n bl k2 fuel) := by
  have hb64 : decide (Int64.ofNat bl > (64 : Int64)) = decide (bl > 64) :=
    i64_ofNat_lt (a := 64) (by omega) (by omega)
  -- the model's `n` is capped at 66: neither `n == 1` nor `bitlen ≥ n` (with `bitlen ≤ 65`) sees it
  have hn1 : (n' == (1 : UInt64)) = (n == 1) := by
    rw [Bool.eq_iff_iff, beq_iff_eq, beq_iff_eq, ← UInt64.toNat_inj]
    show n'.toNat = 1 ↔ _
    omega
  have hge : decide (Int64.ofNat bl ≥ n'.toInt64) = decide (bl ≥ n) := by
    rw [u64_toInt64_eq_ofNat]
    exact (i64_ofNat_le (by omega) (by omega)).trans (decide_eq_decide.mpr (by omega))
  induction fuel with
  | zero => exact RunEq.refl _
  | succ fuel ih =>
    show RunEq (.group _ _ _ _ _) (.group _ _ _ _ _)
    simp only [natOfInt_ofNat (show bl < 2 ^ 63 by omega)]
    refine RunEq.draw_group fun _ u _ _ => ⟨?_, ?_⟩
    · simp only [dec_enc_pair, dec_enc_u64, dec_enc_bool, vu_uv, hb64]
    · simp only [dec_enc_pair, dec_enc_u64, dec_enc_bool, vu_uv, hb64, hn1, hge, decide_eq_true_eq]
      exact RunEq.ite _ (fun _ => hk _ _ _) fun _ => ih

theorem overflowAt_i64 : ∀ b : Nat, b ≤ 64 →
    (64 : Int64) - ((16 : Int64) - Int64.ofNat (biasM b)) * (4 : Int64) = Int64.ofNat (overflowAt b) := by
  decide +kernel

/-- the model caps the geometric value at 66; a bit length and `overflowAt` are at most 64, so the bit length chosen does not see it -/
theorem biasedBitlen_cap {b : Nat} (hb : b ≤ 64) (g : Nat) : biasedBitlen b (min g 65 + 1) = biasedBitlen b (g + 1) := by
  have big : ∀ n, 65 < n → biasedBitlen b n = 65 := fun n hn => by
    have ho : overflowAt b ≤ 64 := by unfold overflowAt; omega
    rw [biasedBitlen, if_neg (by omega), if_pos (by omega)]
  by_cases h : g ≤ 65
  · rw [Nat.min_eq_left h]
  · rw [Nat.min_eq_right (by omega), big _ (by omega), big _ (by omega)]

/-- the bit length chosen from the geometric value: the source's `int` arithmetic against the model's -/
theorem tr_biasedBitlen {b : Nat} (hb : b ≤ 64) {g : UInt64} (hg : g.toNat < 2 ^ 32) {mI : Int64}
    (hm : mI = Int64.ofNat (biasM b)) :
    (if decide ((g + 1).toInt64 < Int64.ofNat b) then (g + 1).toInt64
     else if (decide ((g + 1).toInt64 > Int64.ofNat b) && decide ((g + 1).toInt64 ≥ (64 : Int64) - ((16 : Int64) - mI) * (4 : Int64)))
       then (65 : Int64) else Int64.ofNat b)
      = Int64.ofNat (biasedBitlen b (min g.toNat 65 + 1)) := by
  have ho : overflowAt b ≤ 64 := by unfold overflowAt; omega
  rw [u64_toInt64_eq_ofNat, geom_succ_toNat hg, hm, overflowAt_i64 b hb,
    i64_ofNat_lt (a := g.toNat + 1) (b := b) (by omega) (by omega),
    i64_ofNat_lt (a := b) (b := g.toNat + 1) (by omega) (by omega),
    i64_ofNat_le (a := overflowAt b) (b := g.toNat + 1) (by omega) (by omega),
    biasedBitlen_cap hb, biasedBitlen, apply_ite Int64.ofNat, apply_ite Int64.ofNat, ← Bool.decide_and]
  simp only [decide_eq_true_eq]
  rfl

theorem biasedBitlen_le {b : Nat} (hb : b ≤ 64) (n : Nat) : biasedBitlen b n ≤ 65 := by
  unfold biasedBitlen
  split
  · omega
  · split <;> omega

theorem tr_genUintNBiased (fe : FEval) (ft : FT) (H : FloatFacts fe ft) (max : UInt64) (fuel : Nat)
    (k1 k2 : UInt64 → Bool → Bool → Prog) (hk : ∀ u l r, RunEq (k1 u l r) (k2 u l r)) :
    RunEq (Translated.genUintNBiased fe max fuel k1) (uintBiased ft max fuel k2) := by
  have hb := len64_le_64 max
  have ha := H.geom_assert (len64 max) hb
  have hM := H.biasM (len64 max) hb
  simp only [biasPfx, biasMfx] at ha hM
  simp only [Translated.genUintNBiased, Translated.genGeom, Translated.genFloat01, Go.len64, ha.1, ha.2, Bool.and_self, if_true,
    uintBiased, natOfInt_53]
  refine RunEq.draw_group fun _ u _ h => ⟨rfl, ?_⟩
  obtain ⟨hg, hgeom⟩ := H.geom (len64 max) hb u (next53_lt h)
  simp only [geomfx, f01, biasPfx, biasMfx] at hg hgeom
  simp only [dec_enc_u64, Int.toNat_natCast, ← hgeom]
  rw [tr_biasedBitlen hb hg hM]
  generalize fe.toU64 _ = g at hg ⊢
  exact tr_biasedLoop (biasedBitlen_le hb _) (by rw [geom_succ_toNat hg]; omega) (by rw [geom_succ_toNat hg]; omega) hk fuel

theorem tr_genUintN (fe : FEval) (ft : FT) (H : FloatFacts fe ft) (max : UInt64) (bias : Bool) (fuel : Nat)
    (k1 k2 : UInt64 → Bool → Bool → Prog) (hk : ∀ u l r, RunEq (k1 u l r) (k2 u l r)) :
    RunEq (Translated.genUintN fe max bias fuel k1) (uintN ft max bias fuel k2) :=
  RunEq.ite _ (fun _ => tr_genUintNBiased fe ft H max fuel _ _ hk)
    fun _ => tr_genUintNUnbiased fe max fuel _ _ fun u => hk u false false

theorem tr_genUintRange (fe : FEval) (ft : FT) (H : FloatFacts fe ft) (min max : UInt64) (bias : Bool) (fuel : Nat)
    (k1 k2 : UInt64 → Bool → Bool → Prog) (hk : ∀ u l r, RunEq (k1 u l r) (k2 u l r)) :
    RunEq (Translated.genUintRange fe min max bias fuel k1) (uintRange ft min max bias fuel k2) := by
  simp only [Translated.genUintRange, uintRange, decide_eq_true_eq]
  exact RunEq.ite _ (fun _ => RunEq.refl _) fun _ => tr_genUintN fe ft H (max - min) bias fuel _ _ fun u l r => hk (min + u) l r

/-- with `bias = true`, the only way the package calls `genIntRange` -/
theorem tr_genIntRange (fe : FEval) (ft : FT) (H : FloatFacts fe ft) (min max : Int64) (fuel : Nat)
    (k1 k2 : Int64 → Bool → Bool → Prog) (hk : ∀ i l r, RunEq (k1 i l r) (k2 i l r)) :
    RunEq (Translated.genIntRange fe min max true fuel k1) (intRange ft min max fuel k2) := by
  simp only [Translated.genIntRange, intRange, decide_eq_true_eq, if_true]
  refine RunEq.ite _ (fun _ => RunEq.refl _) fun _ => ?_
  -- the two calls of genUintRange, whichever way the coin falls
  have calls : ∀ (negMin posMin : UInt64) (c1 c2 : Bool) (b : Bool),
      RunEq (if b = true then
              Translated.genUintRange fe negMin (-min).toUInt64 true fuel fun u l r => k1 (-u.toInt64) r (l && c1)
            else Translated.genUintRange fe posMin max.toUInt64 true fuel fun u l r => k1 u.toInt64 (l && c2) r)
          (if b = true then
              uintRange ft negMin (-min).toUInt64 true fuel fun u l r => k2 (-u.toInt64) r (l && c1)
            else uintRange ft posMin max.toUInt64 true fuel fun u l r => k2 u.toInt64 (l && c2) r) :=
    fun _ _ _ _ _ => RunEq.ite _ (fun _ => tr_genUintRange fe ft H _ _ true fuel _ _ fun _ _ _ => hk _ _ _)
      fun _ => tr_genUintRange fe ft H _ _ true fuel _ _ fun _ _ _ => hk _ _ _
  by_cases h0 : min ≥ 0
  · simp only [h0, if_true]
    exact H.coinOK0.runEq fuel _ _ (calls _ _ _ _)
  · by_cases h1 : max ≤ 0
    · simp only [h0, h1, if_false, if_true]
      exact H.coinOK1.runEq fuel _ _ (calls _ _ _ _)
    · simp only [h0, h1, if_false]
      exact H.coinOKHalf.runEq fuel _ _ (calls _ _ _ _)

theorem tr_genIndex (fe : FEval) (ft : FT) (H : FloatFacts fe ft) (n : Nat) (hn : n < 2 ^ 62) (bias : Bool) (fuel : Nat)
    (k1 : Int64 → Prog) (k2 : Nat → Prog) (hk : ∀ u : UInt64, RunEq (k1 u.toInt64) (k2 u.toNat)) :
    RunEq (Translated.genIndex fe (Int64.ofNat n) bias fuel k1) (index ft n bias fuel k2) := by
  simp only [Translated.genIndex, index, i64_ofNat_pos (show n < 2 ^ 63 by omega), decide_eq_true_eq]
  cases n with
  | zero => exact RunEq.refl _
  | succ m =>
    rw [if_pos (Nat.succ_pos m), if_neg (Nat.succ_ne_zero m), i64_ofNat_pred, Int64.toUInt64_ofNat']
    exact tr_genUintN fe ft H _ bias fuel _ _ fun u _ _ => hk u

/-- `FloatFacts` can be met: an evaluator that answers the float questions of utils.go from the thresholds `ft` -/
def feOf (ft : FT) : FEval where
  toU64 x := match x with
    | .div (.call1 _ (.neg (.mul (.ofU64 w) _))) (.call1 _ (.neg (.div _ (.add (.call2 _ _ (.div (.add (.ofI64 b) _) _)) _)))) =>
        UInt64.ofNat (geomN (ft.geom b.toInt.toNat) w - 1)
    | _ => 0
  toI64 x := match x with
    | .call2 _ _ (.div (.add (.ofI64 b) _) _) => Int64.ofNat (biasM b.toInt.toNat)
    | _ => 0
  le a b := match a, b with
    | .sub _ (.lit p), .mul (.ofU64 w) _ => if p = "0" then false else if p = "1" then true else decide (ft.coinHalf ≤ w)
    | .sub _ (.ofBits p), .mul (.ofU64 w) _ =>
        if p = 0 then false else if p = 0x3FF0000000000000 then true else decide (ft.coinHalf ≤ w)
    | _, _ => true
  lt _ _ := true
  f64to32 _ := 0

theorem floatFacts_feOf (ft : FT) (hlen : ∀ b : Nat, b ≤ 64 → (ft.geom b).length ≤ 65) : FloatFacts (feOf ft) ft where
  coin_assert := by
    intro p hp
    rcases hp with rfl | rfl | rfl <;> exact ⟨rfl, rfl⟩
  coin0 := fun w _ => rfl
  coin1 := fun w _ => rfl
  coinHalf := fun w _ => rfl
  geom_assert := fun b _ => ⟨rfl, rfl⟩
  biasM := fun b hb => by
    show Int64.ofNat (biasM (Int64.ofNat b).toInt.toNat) = _
    rw [Int64.toInt_ofNat_of_lt (by omega), Int.toNat_natCast]
  geom := fun b hb w _ => by
    -- the evaluator answers with the number of break points up to `w`
    have hc : ((ft.geom b).filter (· ≤ w)).length ≤ 65 := Nat.le_trans (List.length_filter_le _ _) (hlen b hb)
    have e : (feOf ft).toU64 (geomfx w (biasPfx (Int64.ofNat b))) = UInt64.ofNat ((ft.geom b).filter (· ≤ w)).length := by
      show UInt64.ofNat (geomN (ft.geom (Int64.ofNat b).toInt.toNat) w - 1) = _
      rw [Int64.toInt_ofNat_of_lt (by omega), Int.toNat_natCast, geomN, Nat.add_sub_cancel_left]
    rw [e, UInt64.toNat_ofNat_of_lt' (Nat.lt_of_le_of_lt hc (by decide)), geomN]
    omega

theorem floatFactsBits_feOf (ft : FT) : FloatFactsBits (feOf ft) ft where
  coin_assert := by
    intro p hp
    rcases hp with rfl | rfl | rfl <;> exact ⟨rfl, rfl⟩
  coin0 := fun w _ => rfl
  coin1 := fun w _ => rfl
  coinHalf := fun w _ => rfl

end Rapid
