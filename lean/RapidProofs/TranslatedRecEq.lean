/-
  RapidProofs.TranslatedRecEq — the recording calls of data.go (`record`, `beginGroup`, `endGroup`, as translated from
  /repo on every run), replayed over the tokens of any run (`srcRecGo`), build exactly the model's recording
  `recOfToks` — no assertion fires, same data, same group list.  With `TranslatedPruneEq` and `PruneLiteral`:
  the source's recording of a run, pruned by the source's `prune()`, is the pruned recording of the theorems.
-/
import RapidModel.SrcRec
import RapidProofs.PruneLiteral
import RapidProofs.TranslatedPruneEq

namespace Rapid
open Forest

theorem goOf_open (l : String) (s : Bool) (o : Nat) :
    goOf ⟨l, s, o, -1, false⟩ = { begin := Int64.ofNat o, end_ := -1, label := l, standalone := s, discard := false } := by
  simp only [goOf, I_nat]; rfl

theorem tr_beginGroup_eq (data : List UInt64) (gs : List GI) (dl : Int64) (l : String) (s : Bool) :
    Translated.recordedBits_beginGroup data (gs.map goOf) dl true l s =
      .ok (Int64.ofNat gs.length, data, (gs ++ [(⟨l, s, data.length, -1, false⟩ : GI)]).map goOf, dl, true) := by
  simp only [Translated.recordedBits_beginGroup, Bool.not_true, Bool.false_eq_true, if_false, M.pure_eq, glen_eq,
    List.length_append, List.length_singleton, List.length_map, i64_ofNat_pred, List.map_append, List.map_singleton, goOf_open]

/-- `endGroup`'s assertion holds for a discarded group and for one that used data (`hb`) -/
theorem tr_endGroup_eq {data : List UInt64} {gs R : List GI} {l : String} {s : Bool} {b : Nat} {dis : Bool}
    (hd : data.length < 2 ^ 62) (hg : gs.length + R.length + 1 < 2 ^ 62) (hb : dis = false → b < data.length) :
    Translated.recordedBits_endGroup data ((gs ++ (⟨l, s, b, -1, false⟩ : GI) :: R).map goOf) 0 true (Int64.ofNat gs.length) dis =
      .ok (data, (gs ++ (⟨l, s, b, (data.length : Int), dis⟩ : GI) :: R).map goOf, 0, true) := by
  have hcond : (dis || decide (Go.glen data > (goOf ⟨l, s, b, -1, false⟩).begin)) = true := by
    cases dis with
    | true => rfl
    | false =>
      rw [Bool.false_or, goOf_open]
      exact (i64_ofNat_lt (by have := hb rfl; omega) (by omega)).trans (decide_eq_true (hb rfl))
  rw [List.map_append, List.map_cons, List.map_append, List.map_cons, ← List.length_map (f := goOf) (as := gs)]
  rw [tr_endGroup data _ 0 _ dis (by simp) (by simp; omega), List.getElem_append_right (Nat.le_refl _)]
  simp only [Nat.sub_self, List.getElem_cons_zero, hcond, if_true, modify_mid]
  simp only [goOf, I_nat, glen_eq]

theorem srcRecGo_rep {toks : List Tok} {F : Forest} (h : Rep toks F) : F.WFne →
    ∀ (rest : List Tok) (d : List UInt64) (gs : List GI) (st : List Int64),
    (d ++ F.words).length < 2 ^ 62 → (gs ++ F.fin d.length).length < 2 ^ 61 →
    srcRecGo (toks ++ rest) d (gs.map goOf) st = srcRecGo rest (d ++ F.words) ((gs ++ F.fin d.length).map goOf) st := by
  induction h with
  | nil => intro _ rest d gs st _ _; simp [Forest.words, Forest.fin]
  | @w u t F _ ih =>
    intro hw rest d gs st hd hg
    simp only [List.cons_append, srcRecGo, tr_record, if_true]
    simp only [Forest.words, Forest.fin] at hd hg
    rw [ih hw rest (d ++ [u]) gs st (by simpa using hd) (by simpa using hg)]
    simp [Forest.words, Forest.fin]
  | @grp l s dis tb t Fb Ft _ _ ihb iht =>
    intro hw rest d gs st hd hg
    simp only [Forest.words, Forest.fin, Forest.size, List.length_append, List.length_cons] at hd hg
    simp only [List.cons_append, List.append_assoc, srcRecGo, tr_beginGroup_eq]
    rw [ihb hw.1 _ d (gs ++ [(⟨l, s, d.length, -1, false⟩ : GI)]) _ (by simp; omega) (by simp; omega)]
    simp only [srcRecGo]
    rw [List.append_assoc, List.singleton_append, tr_endGroup_eq (by simp; omega) (by omega)
      (fun hdis => by have := hw.2.2 hdis; simp [Forest.size] at this ⊢; omega)]
    dsimp only
    rw [iht hw.2.1 rest (d ++ Fb.words) _ st (by simp; omega) (by simp; omega)]
    simp [Forest.words, Forest.fin, Forest.size]
  | @abt l s tb t Fb Ft _ _ ihb iht =>
    intro hw rest d gs st hd hg
    have hwb := (wfne_app Fb Ft).mp hw
    simp only [Forest.words, Forest.fin, fin_app, words_app, Forest.size, List.length_append, List.length_cons] at hd hg
    simp only [List.cons_append, List.append_assoc, srcRecGo, tr_beginGroup_eq]
    rw [ihb hwb.1 _ d (gs ++ [(⟨l, s, d.length, -1, false⟩ : GI)]) _ (by simp; omega) (by simp; omega)]
    simp only [srcRecGo, List.tail_cons]
    rw [iht hwb.2 rest (d ++ Fb.words) _ st (by simp; omega) (by simp; omega)]
    simp [Forest.words, Forest.fin, fin_app, Forest.size]

theorem small_of_run (p : Prog) (src : Src) (ts : TS)
    (hd : (recOfToks (p.run src ts).toks).data.length < 2 ^ 62) (hg : (recOfToks (p.run src ts).toks).groups.length < 2 ^ 61) :
    (recOfToks (p.run src ts).toks).Small := by
  obtain ⟨F, hrep, _, _⟩ := run_rep p src ts
  rw [recOfToks_rep hrep] at hd hg ⊢
  refine ⟨hd, hg, ?_⟩
  intro g hgm
  have h1 := fin_mem F 0 g hgm
  simp only [Forest.size] at h1
  simp only at hd
  exact ⟨by omega, h1.2.1, by omega⟩

/-- **the source's recording calls on the tokens of any run give the model's recording** (`recOfToks`): `record`,
    `beginGroup`, `endGroup` as translated from /repo, replayed in the order of the run, never stop at an assertion
    and leave the data and the group list of the model -/
theorem srcRecGo_of_run (p : Prog) (src : Src) (ts : TS)
    (hd : (recOfToks (p.run src ts).toks).data.length < 2 ^ 62) (hg : (recOfToks (p.run src ts).toks).groups.length < 2 ^ 61) :
    srcRecGo (p.run src ts).toks [] [] [] =
      some ((recOfToks (p.run src ts).toks).data, (recOfToks (p.run src ts).toks).groups.map goOf) := by
  obtain ⟨F, hrep, hwf, _⟩ := run_rep p src ts
  rw [recOfToks_rep hrep] at hd hg ⊢
  have := srcRecGo_rep hrep hwf [] [] [] [] (by simpa using hd) (by simpa using hg)
  simpa [srcRecGo] using this

end Rapid
