/-
  C09 — Check does the promised amount of work and never passes vacuously.
  `N = checks` is the effective number of checks (`-short` divides the flag by 5, as documented).
-/
import RapidModel.Generated.CallOrders
import RapidModel.Generated.Consts
import RapidProofs.Shrink
import RapidProofs.Signals
import RapidProofs.TranslatedCheckEq
import RapidProofs.TranslatedEngineEq

namespace Rapid.C09

/-- the generation loop, when it neither fails nor exits early, stops exactly at a bound:
    `N` valid test cases, or `10·N` invalid ones; it ran the property exactly
    `valid + invalid` times; it never counts past a bound -/
theorem exact_work (p : Prog) (checks : Nat) (seed : UInt64) (early : Nat → Bool) :
    let fb := findBug p checks seed early
    fb.valid ≤ checks ∧ fb.invalid ≤ checks * 10 ∧
    (fb.err = none → fb.early = false → (fb.valid = checks ∨ fb.invalid = checks * 10)) ∧
    fb.seeds.length = fb.valid + fb.invalid + (if fb.err.isSome then 1 else 0) :=
  findBugLoop_counts p checks early (checks + checks * invalidChecksMult) 0 0 seed TS.fresh []
    (Nat.le_refl _) (Nat.zero_le _) (Nat.zero_le _) rfl

/-- the verdict passes only with `N` valid test cases (or, on early exit, at least one) -/
theorem pass_is_not_vacuous (checks : Nat) (d : DC) (v : Nat) (h : verdict checks d = .pass v) :
    d.err1 = none ∧ d.err2 = none ∧ v = d.valid ∧ (d.valid = checks ∨ (d.early = true ∧ d.valid > 0)) :=
  verdict_pass h

/-- without early exit and without a failure, fewer than `N` valid cases is "only generated" -/
theorem only_generated (checks : Nat) (d : DC) (h1 : d.err1 = none) (h2 : d.err2 = none)
    (hv : d.valid ≠ checks) (he : d.early = false) :
    verdict checks d = .onlyGenerated d.valid (d.valid + d.invalid) := by
  simp [verdict, h1, h2, hv, he]

/-- every verdict except `pass` fails the enclosing test (and `checkTB` then calls `FailNow`) -/
theorem non_pass_fails (v : Verdict) : v.failsTB = false ↔ ∃ n, v = .pass n := by
  cases v <;> simp [Verdict.failsTB]

/-- after the first falsified test case no further PRNG-driven test case is generated by the
    loop: the failing one is the last -/
theorem stops_at_first_failure (p : Prog) (checks : Nat) (seed : UInt64) (early : Nat → Bool)
    (h : (findBug p checks seed early).err.isSome) :
    (findBug p checks seed early).seeds.length = (findBug p checks seed early).valid + (findBug p checks seed early).invalid + 1 := by
  have := (exact_work p checks seed early).2.2.2
  simpa [h] using this

/-- a fail file that reproduces is reported before any random test case is run -/
theorem fail_file_first (p : Prog) (checks : Nat) (seed : UInt64) (files : List FF) (early : Nat → Bool)
    (cands : List (List UInt64)) (r : Nat × List UInt64 × Option Err × Option Err)
    (h : firstFailFile p files 0 = some r) :
    (doCheck p checks seed files early cands).seeds = [] ∧ (doCheck p checks seed files early cands).valid = 0 := by
  rw [doCheck_of_file h]; exact ⟨rfl, rfl⟩

example : (findBug (.ret .nil) 3 1 (fun _ => false)).valid = 3 := by decide
example : (findBug (Prog.skip "s") 2 1 (fun _ => false)).invalid = 20 := by decide

theorem budget_source : Rapid.Generated.c_invalidChecksMult = invalidChecksMult ∧ Rapid.Generated.flag_checks = 100 :=
  ⟨rfl, rfl⟩

theorem loop_condition_source :
    Rapid.Generated.src_findBug_loopCond = "valid < checks && invalid < checks * invalidChecksMult" := rfl

theorem pass_condition_source :
    Rapid.Generated.src_checkTB_passCond = "valid == checks || (earlyExit && valid > 0)" := rfl

/-- the loop condition of `findBug` and the pass condition of `checkTB`, translated from /repo's source on
    every run (extract/translate.go), ARE the model's conditions — for all counter values, not as text -/
theorem loop_and_pass_condition_translated (valid invalid checks : Nat) (early : Bool)
    (hv : valid < 2 ^ 58) (hi : invalid < 2 ^ 58) (hc : checks < 2 ^ 58) :
    Translated.findBugLoopCond (Int64.ofNat checks) (Int64.ofNat invalid) (Int64.ofNat valid) =
      decide (valid < checks ∧ invalid < checks * invalidChecksMult) ∧
    Translated.checkTBPassCond (Int64.ofNat checks) early (Int64.ofNat valid) =
      decide (valid = checks ∨ (early = true ∧ valid > 0)) :=
  ⟨tr_findBugLoopCond valid invalid checks hv hi hc, tr_checkTBPassCond valid checks early hv hc⟩

/-- **the generation loop of the source computes the model's `findBug`** (whose amount of work `exact_work`, `only_generated`
    and `stops_at_first_failure` are about): run against the model's test case runner, the translated `findBug` returns the
    model's numbers of valid and invalid test cases, the early-exit flag, the seed and the class of the error — for every
    property, base seed, number of checks below 2^56 and behaviour of the clock -/
theorem source_findBug (p : Prog) (early : Nat → Bool) (checks : Nat) (seed sd0 : UInt64) (fuel : Nat) (hc : checks < 2 ^ 56)
    (hf : checks + checks * invalidChecksMult < fuel) :
    ∃ s', Rapid.EM.exec (modelEOracle p early) (Rapid.Translated.findBug (Int64.ofNat checks) seed fuel) (TS.fresh, sd0) =
      (.ok (fbT (findBug p checks seed early)), s') :=
  tr_findBug p early checks seed sd0 fuel hc hf

/-- … hence the source's generation loop runs at most `checks` valid and `10·checks` invalid test cases, and without a failure
    or an early exit it stops only when one of the two budgets is used up -/
theorem source_findBug_work (p : Prog) (early : Nat → Bool) (checks : Nat) (seed sd0 : UInt64) (fuel : Nat) (hc : checks < 2 ^ 56)
    (hf : checks + checks * invalidChecksMult < fuel) :
    ∃ valid invalid e sd err s', Rapid.EM.exec (modelEOracle p early) (Rapid.Translated.findBug (Int64.ofNat checks) seed fuel) (TS.fresh, sd0) =
        (.ok (Int64.ofNat valid, Int64.ofNat invalid, e, sd, err), s') ∧
      valid ≤ checks ∧ invalid ≤ checks * 10 ∧ (err = Go.ErrC.none → e = false → (valid = checks ∨ invalid = checks * 10)) := by
  obtain ⟨s', h⟩ := source_findBug p early checks seed sd0 fuel hc hf
  obtain ⟨a, b, c, _⟩ := exact_work p checks seed early
  refine ⟨_, _, _, _, _, s', h, a, b, fun herr hearly => c ?_ hearly⟩
  have := errClass_none_iff (findBug p checks seed early).err
  rw [herr] at this
  exact Option.isNone_iff_eq_none.mp this.symm

/-- `checkTB` re-read from /repo statement by statement: the model's `verdict` was written against exactly this text — `doCheck`
    with `flags.checks` (a fifth of it under `-short`), `baseSeed()`, `flags.failfile` and the glob; no error: "OK" when
    `valid == checks` or an early exit after at least one valid test case, else the "only generated" error; an error: the fail
    file is saved (unless one reproduced or `-rapid.nofailfile`), same tracebacks give "failed after"/"panic after", different
    ones "flaky"; the final replay on a logging `*T`; and `tb.FailNow()` whenever the TB has failed -/
theorem checkTB_body_source : Rapid.Generated.body_checkTB =
    ["{", "tb.Helper()", "checks := flags.checks", "if testing.Short() {", "checks /= 5", "}", "start := time.Now()",
     "valid, invalid, earlyExit, seed, failfile, buf, err1, err2 := doCheck(tb, deadline, checks, baseSeed(), flags.failfile, true, prop)",
     "dt := time.Since(start)", "if err1 == nil && err2 == nil {",
     "if valid == checks || (earlyExit && valid > 0) {", "tb.Logf(\"[rapid] OK, passed %v tests (%v)\", valid, dt)",
     "} else {", "tb.Errorf(\"[rapid] only generated %v valid tests from %v total (%v)\", valid, valid+invalid, dt)",
     "}", "} else {", "if failfile == \"\" && !flags.nofailfile {", "_, failfile = failFileName(tb.Name())",
     "out := captureTestOutput(tb, prop, buf)", "err := saveFailFile(failfile, rapidVersion, out, seed, buf)",
     "if err != nil {", "tb.Logf(\"[rapid] %v\", err)", "failfile = \"\"", "}", "}", "var repr string", "switch {",
     "case failfile != \"\" && seed != 0:",
     "repr = fmt.Sprintf(\"-rapid.failfile=%q (or -rapid.seed=%d)\", failfile, seed)", "case failfile != \"\":",
     "repr = fmt.Sprintf(\"-rapid.failfile=%q\", failfile)", "case seed != 0:",
     "repr = fmt.Sprintf(\"-rapid.seed=%d\", seed)", "}", "name := regexp.QuoteMeta(tb.Name())",
     "if traceback(err1) == traceback(err2) {", "if err2.isStopTest() {",
     "tb.Errorf(\"[rapid] failed after %v tests: %v\\nTo reproduce, specify -run=%q %v\\nFailed test output:\", valid, err2, name, repr)",
     "} else {",
     "tb.Errorf(\"[rapid] panic after %v tests: %v\\nTo reproduce, specify -run=%q %v\\nTraceback:\\n%vFailed test output:\", valid, err2, name, repr, traceback(err2))",
     "}", "} else {",
     "tb.Errorf(\"[rapid] flaky test, can not reproduce a failure\\nTo try to reproduce, specify -run=%q %v\\nTraceback (%v):\\n%vOriginal traceback (%v):\\n%vFailed test output:\", name, repr, err2, traceback(err2), err1, traceback(err1))",
     "}", "_ = checkOnce(newT(tb, newBufBitStream(buf, false), true, nil), prop)", "}", "if tb.Failed() {",
     "tb.FailNow()", "}", "}"] := by rfl

/-- **the numbers of valid and invalid test cases the source's `doCheck` hands to `checkTB` are those of the generation loop**
    (when no fail file reproduced a failure): the model's `findBug` — which by `source_findBug` is what the *translated* `findBug`
    computes, and by `exact_work` / `stops_at_first_failure` is `checks` valid or `10·checks` invalid test cases when nothing fails
    and the clock does not end the loop, and no fresh test case after the first failure -/
theorem source_doCheck_work (E : Go.CEnv) (checks : Nat) (hc : checks < 2 ^ 62) (seed : UInt64) (failfile : String) (globf : Bool)
    (fuel : Nat) (hl : (Go.failFileNames failfile globf E.found).length < 2 ^ 62)
    (hfuel : (Go.failFileNames failfile globf E.found).length < fuel)
    (hfiles : firstFailFile E.p ((Go.failFileNames failfile globf E.found).map E.file) 0 = none) :
    ∃ r, (Go.CM.run E (Translated.doCheck (Int64.ofNat checks) seed failfile globf fuel) none).1 = .ok r ∧
      r.1 = Int64.ofNat (findBug E.p checks seed E.early).valid ∧ r.2.1 = Int64.ofNat (findBug E.p checks seed E.early).invalid := by
  rw [Go.tr_doCheck E checks hc seed failfile globf fuel hl hfuel]
  cases hfe : (findBug E.p checks seed E.early).err with
  | none => rw [doCheck_of_pass hfiles rfl hfe]; exact ⟨_, rfl, rfl, rfl⟩
  | some x => rw [doCheck_of_bug hfiles rfl hfe]; exact ⟨_, rfl, rfl, rfl⟩

end Rapid.C09
