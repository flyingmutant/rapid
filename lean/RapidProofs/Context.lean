/-
  RapidProofs.Context — the context handed out by a `*T` is one and the same for the whole
  body: the first `T.Context()` call creates it, no construct replaces or clears it.
-/
import RapidProofs.Runs

namespace Rapid

theorem Runs.ctx_stable {src : Src} {ts : TS} {o : Out} (h : Runs src ts o) {id : Nat} (hc : ts.ctx = some id) :
    o.ts.ctx = some id := by
  induction h with
  | leaf | overrun | innerStop => exact hc
  | draw _ _ ih | groupAbort _ _ _ _ ih => exact ih hc
  | step hs _ ih =>
    cases hs with
    | ctxNew h => cases hc.symm.trans h
    | _ => exact ih hc
  | groupDone _ _ _ _ _ _ ih ih2 | seq _ _ ih ih2 => exact ih2 (ih hc)
  | innerDone _ _ _ ih2 => exact ih2 hc

/-- the first `T.Context()` call creates the context, and it is live -/
theorem ctx_node_creates (k : Prog) (src : Src) (ts : TS) (h : ts.ctx = none) :
    ∃ o : Out, (Prog.ctx k).run src ts = o.after [] [] [] [.ctx ts.ctxCount true] ∧
      o = k.run src { ts with ctx := some ts.ctxCount, ctxCount := ts.ctxCount + 1 } := by
  simp only [Prog.run, h]; exact ⟨_, rfl, rfl⟩

/-- during cleanup `T.Context()` returns an already cancelled context -/
theorem cleanup_ctx_cancelled (k : CTree) (ts : TS) :
    ∃ o : COut, (CTree.ctx k).run ts = { o with evs := .ctx ts.ctxCount false :: o.evs } := ⟨_, rfl⟩

end Rapid
