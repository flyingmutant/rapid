/-
  RapidProofs.ContractsFloat — `genUfloatRange` / `genFloatRange` (floats.go): for EVERY bit
  source the float handed on lies in `[min, max]` (in the order of the real numbers), is not a
  NaN, and no internal assertion fires — or the draw ends with invalid data.
-/
import RapidProofs.ContractsInt
import RapidProofs.FloatBits

namespace Rapid

theorem clearLow_bounds (sfMin : UInt64) : ∀ (cnt i : Nat) (sf : UInt64), sfMin ≤ sf →
    sfMin ≤ clearLow sfMin cnt i sf ∧ clearLow sfMin cnt i sf ≤ sf := by
  intro cnt
  induction cnt with
  | zero => intro i sf h; exact ⟨h, UInt64.le_refl _⟩
  | succ n ih =>
    intro i sf h
    simp only [clearLow]
    split
    · exact ⟨h, UInt64.le_refl _⟩
    · rename_i hlt
      have ⟨h2, h3⟩ := ih (i + 1) _ (UInt64.not_lt.mp hlt)
      exact ⟨h2, UInt64.le_trans h3 UInt64.and_le_left⟩

/-! The two switches of `genUfloatRange` (`siBounds`, `sfBounds`) each compute one component `x` of a lexicographic
  range: it starts at the component `x0` of the lower bound if the components before it are those of the lower bound
  (`a`) and at 0 otherwise; it ends at the component `x1` of the upper bound if the components before it are those of
  the upper bound (`b`) and at the largest `k`-bit word otherwise. -/

theorem level_lo {a : Prop} [Decidable a] {x0 x : UInt64} : (if a then x0 else 0) ≤ x ↔ (a → x0 ≤ x) := by
  by_cases ha : a
  · rw [if_pos ha]; exact ⟨fun h _ => h, fun h => h ha⟩
  · rw [if_neg ha]; exact ⟨fun _ h => absurd h ha, fun _ => UInt64.zero_le⟩

theorem level_hi {b : Prop} [Decidable b] {x1 x : UInt64} {k : Nat} (hk : k < 64) (h1 : b → x1.toNat < 2 ^ k) :
    x ≤ (if b then x1 else bitmask64 k) ↔ (b → x ≤ x1) ∧ x.toNat < 2 ^ k := by
  by_cases hb : b
  · rw [if_pos hb]
    exact ⟨fun h => ⟨fun _ => h, Nat.lt_of_le_of_lt (UInt64.le_iff_toNat_le.mp h) (h1 hb)⟩, fun h => h.1 hb⟩
  · rw [if_neg hb, le_bitmask_iff hk]; exact ⟨fun h => ⟨fun h' => absurd h' hb, h⟩, fun h => h.2⟩

theorem level_ne {a b : Prop} [Decidable a] [Decidable b] {x0 x1 : UInt64} {k : Nat} (hk : k < 64)
    (h0 : a → x0.toNat < 2 ^ k) (h1 : b → x1.toNat < 2 ^ k) (h01 : a → b → x0 ≤ x1) :
    (if a then x0 else 0) ≤ (if b then x1 else bitmask64 k) := by
  refine (level_hi hk h1).mpr ⟨fun hb => level_lo.mpr fun ha => h01 ha hb, ?_⟩
  split
  · exact h0 ‹a›
  · exact Nat.two_pow_pos k

/-- The idea of the float contract: once the two overflow cases are gone, a `switch` of `genUfloatRange` chooses the two
    ends of its range independently, although it is written as four cases — the test of its first case (`minExp ==
    maxExp`, …) holds iff those of the second and the third both do, the value drawn before lying between the bounds. -/
theorem switch_eq {α β : Type} {c a b : Prop} [Decidable c] [Decidable a] [Decidable b] (h : c ↔ a ∧ b) (x0 z : α) (x1 m : β) :
    (if c then (x0, x1) else if a then (x0, m) else if b then (z, x1) else (z, m)) =
      (if a then x0 else z, if b then x1 else m) := by
  by_cases ha : a <;> by_cases hb : b <;> simp [h, ha, hb]

theorem siBounds_eq (S : Nat) (p0 p1 : Int × UInt64 × UInt64) {e : Int} (h0 : p0.1 ≤ e) (h1 : e ≤ p1.1) :
    siBounds S p0 p1 e false false =
      (if e = p0.1 then p0.2.1 else 0, if e = p1.1 then p1.2.1 else bitmask64 (S - fracBits e S)) := by
  rw [siBounds, if_neg Bool.false_ne_true, if_neg Bool.false_ne_true]
  exact switch_eq ⟨fun (c : p0.1 = p1.1) => ⟨Int.le_antisymm (c ▸ h1) h0, Int.le_antisymm h1 (c ▸ h0)⟩,
    fun h => h.1.symm.trans h.2⟩ _ _ _ _

theorem sfBounds_eq (S : Nat) (p0 p1 : Int × UInt64 × UInt64) {e : Int} {si : UInt64} (h0 : p0.1 ≤ e) (h1 : e ≤ p1.1)
    (a1 : e = p0.1 → p0.2.1 ≤ si) (b1 : e = p1.1 → si ≤ p1.2.1) :
    sfBounds S p0 p1 e false false si =
      (if e = p0.1 ∧ si = p0.2.1 then p0.2.2 else 0, if e = p1.1 ∧ si = p1.2.1 then p1.2.2 else bitmask64 (fracBits e S)) := by
  rw [sfBounds, if_neg Bool.false_ne_true, if_neg Bool.false_ne_true]
  refine switch_eq ⟨fun c => ?_, fun h => ⟨h.1.1 ▸ h.2.1, h.1.2 ▸ h.2.2⟩⟩ _ _ _ _
  have e0 : e = p0.1 := Int.le_antisymm (c.1 ▸ h1) h0
  have e1 : e = p1.1 := Int.le_antisymm h1 (c.1 ▸ h0)
  have s0 : si = p0.2.1 := UInt64.le_antisymm (c.2 ▸ b1 e1) (a1 e0)
  exact ⟨⟨e0, s0⟩, e1, c.2 ▸ s0⟩

structure BoundsOK (f : FFmt) (p0 p1 : Int × UInt64 × UInt64) : Prop where
  ok0 : PartsOK f p0.1 p0.2.1.toNat p0.2.2.toNat
  ok1 : PartsOK f p1.1 p1.2.1.toNat p1.2.2.toNat
  le : PartsLe p0 p1

def InRange (f : FFmt) (p0 p1 pt : Int × UInt64 × UInt64) : Prop :=
  PartsOK f pt.1 pt.2.1.toNat pt.2.2.toNat ∧ PartsLe p0 pt ∧ PartsLe pt p1

/-- without overflow flags the two switches describe the parts in range whose exponent is `e`: neither range is empty,
    and `si`, `sf` lie in them exactly if `(e, si, sf)` is in range -/
theorem switches_spec (f : FFmt) (hf : f.WF) {p0 p1 : Int × UInt64 × UInt64} (hb : BoundsOK f p0 p1) {e : Int}
    (h0 : p0.1 ≤ e) (h1 : e ≤ p1.1) :
    (siBounds f.S p0 p1 e false false).1 ≤ (siBounds f.S p0 p1 e false false).2 ∧
    (∀ si, (siBounds f.S p0 p1 e false false).1 ≤ si → si ≤ (siBounds f.S p0 p1 e false false).2 →
      (sfBounds f.S p0 p1 e false false si).1 ≤ (sfBounds f.S p0 p1 e false false si).2) ∧
    ∀ si sf, ((siBounds f.S p0 p1 e false false).1 ≤ si ∧ si ≤ (siBounds f.S p0 p1 e false false).2) ∧
        ((sfBounds f.S p0 p1 e false false si).1 ≤ sf ∧ sf ≤ (sfBounds f.S p0 p1 e false false si).2) ↔
      InRange f p0 p1 (e, si, sf) := by
  have hI : f.S - fracBits e f.S < 64 := Nat.lt_of_le_of_lt (Nat.sub_le _ _) hf.hS
  have hF : fracBits e f.S < 64 := Nat.lt_of_le_of_lt (fracBits_le e f.S) hf.hS
  have i0 : e = p0.1 → p0.2.1.toNat < 2 ^ (f.S - fracBits e f.S) := fun h => h ▸ hb.ok0.si_lt
  have i1 : e = p1.1 → p1.2.1.toNat < 2 ^ (f.S - fracBits e f.S) := fun h => h ▸ hb.ok1.si_lt
  have f0 : ∀ si, e = p0.1 ∧ si = p0.2.1 → p0.2.2.toNat < 2 ^ fracBits e f.S := fun _ h => h.1 ▸ hb.ok0.sf_lt
  have f1 : ∀ si, e = p1.1 ∧ si = p1.2.1 → p1.2.2.toNat < 2 ^ fracBits e f.S := fun _ h => h.1 ▸ hb.ok1.sf_lt
  have el : 0 ≤ e + f.bias := Int.le_trans hb.ok0.e_lo (Int.add_le_add_right h0 _)
  have eh : (e + f.bias).toNat < 2 ^ f.E :=
    Nat.lt_of_le_of_lt (Int.toNat_le_toNat (Int.add_le_add_right h1 _)) hb.ok1.e_hi
  rw [siBounds_eq f.S p0 p1 h0 h1]
  refine ⟨level_ne hI i0 i1 fun a b => (hb.le.2 (a ▸ b)).1, fun si hs1 hs2 => ?_, fun si sf => ⟨?_, ?_⟩⟩
  · have a1 := level_lo.mp hs1; have b1 := ((level_hi hI i1).mp hs2).1
    rw [sfBounds_eq f.S p0 p1 h0 h1 a1 b1]
    exact level_ne hF (f0 si) (f1 si) fun a b => (hb.le.2 (a.1 ▸ b.1)).2 (a.2 ▸ b.2)
  · rintro ⟨⟨hs1, hs2⟩, hf12⟩
    have a1 := level_lo.mp hs1; have ⟨b1, t1⟩ := (level_hi hI i1).mp hs2
    rw [sfBounds_eq f.S p0 p1 h0 h1 a1 b1] at hf12
    have a2 := level_lo.mp hf12.1; have ⟨b2, t2⟩ := (level_hi hF (f1 si)).mp hf12.2
    exact ⟨⟨el, eh, t1, t2⟩, ⟨h0, fun h => ⟨a1 h.symm, fun h' => a2 ⟨h.symm, h'.symm⟩⟩⟩,
      ⟨h1, fun h => ⟨b1 h, fun h' => b2 ⟨h, h'⟩⟩⟩⟩
  · rintro ⟨hok, hlo, hhi⟩
    have a1 : e = p0.1 → p0.2.1 ≤ si := fun h => (hlo.2 h.symm).1
    have b1 : e = p1.1 → si ≤ p1.2.1 := fun h => (hhi.2 h).1
    rw [sfBounds_eq f.S p0 p1 h0 h1 a1 b1]
    exact ⟨⟨level_lo.mpr a1, (level_hi hI i1).mpr ⟨b1, hok.si_lt⟩⟩, level_lo.mpr fun h => (hlo.2 h.1.symm).2 h.2.symm,
      (level_hi hF (f1 si)).mpr ⟨fun h => (hhi.2 h.1).2 h.2, hok.sf_lt⟩⟩

/-- the exponent drawn, with the meaning of its overflow flags -/
structure ExpOK (p0 p1 : Int × UInt64 × UInt64) (e : Int) (l r : Bool) : Prop where
  lo : p0.1 ≤ e
  hi : e ≤ p1.1
  hl : l = true → e = p0.1
  hr : r = true → e = p1.1

/-- what `genUfloatRange` draws after the integer significand, for the bounds `b` of the fractional one: `r`, `sf`, and
    the loop that clears low bits of `sf` -/
def sfDraw (ft : FT) (b : UInt64 × UInt64) (fuel : Nat) (k : UInt64 → Prog) : Prog :=
  uintNoReject (UInt64.ofNat (len64 (b.2 - b.1))) fun r =>
    uintRange ft b.1 b.2 false fuel fun sf _ _ => k (clearLow b.1 (len64 (b.2 - b.1) - r.toNat) 0 sf)

theorem spec_sfDraw (ft : FT) (b : UInt64 × UInt64) (fuel : Nat) (h : b.1 ≤ b.2) :
    Spec true (sfDraw ft b fuel) (fun sf => b.1 ≤ sf ∧ sf ≤ b.2) := by
  unfold sfDraw
  refine Spec.bind (s' := true) (spec_uintNoReject _) fun r _ => ?_
  refine ((spec_uintRange ft _ _ false fuel h).map fun y => clearLow b.1 (len64 (b.2 - b.1) - r.toNat) 0 y.1).mono ?_
  rintro _ ⟨y, ⟨⟨hy1, hy2⟩, _⟩, rfl⟩
  have ⟨hc1, hc2⟩ := clearLow_bounds b.1 (len64 (b.2 - b.1) - r.toNat) 0 y.1 hy1
  exact ⟨hc1, UInt64.le_trans hc2 hy2⟩

theorem ufloatSignif_eq (ft : FT) (S : Nat) (p0 p1 : Int × UInt64 × UInt64) (e : Int) (l r : Bool) (fuel : Nat) :
    ufloatSignif ft S p0 p1 e l r fuel = fun k =>
      uintRange ft (siBounds S p0 p1 e l r).1 (siBounds S p0 p1 e l r).2 false fuel fun si _ _ =>
        sfDraw ft (sfBounds S p0 p1 e l r si) fuel fun sf => k (si, sf) := rfl

/-- the `floatsignif` group hands on parts in range: those of `min` (of `max`) if the exponent draw raised the left
    (right) overflow flag -/
theorem spec_ufloatSignif (ft : FT) (f : FFmt) (hf : f.WF) {p0 p1 : Int × UInt64 × UInt64} (hb : BoundsOK f p0 p1)
    {e : Int} {l r : Bool} (he : ExpOK p0 p1 e l r) (fuel : Nat) :
    Spec true (ufloatSignif ft f.S p0 p1 e l r fuel) (fun x => InRange f p0 p1 (e, x.1, x.2)) := by
  have ranges : (siBounds f.S p0 p1 e l r).1 ≤ (siBounds f.S p0 p1 e l r).2 ∧
      ∀ si, (siBounds f.S p0 p1 e l r).1 ≤ si → si ≤ (siBounds f.S p0 p1 e l r).2 →
        (sfBounds f.S p0 p1 e l r si).1 ≤ (sfBounds f.S p0 p1 e l r si).2 ∧
        ∀ sf, (sfBounds f.S p0 p1 e l r si).1 ≤ sf → sf ≤ (sfBounds f.S p0 p1 e l r si).2 → InRange f p0 p1 (e, si, sf) := by
    cases l with
    | true =>
      obtain rfl := he.hl rfl
      refine ⟨UInt64.le_refl _, fun si h1 h2 => ⟨UInt64.le_refl _, fun sf h3 h4 => ?_⟩⟩
      obtain rfl : si = p0.2.1 := UInt64.le_antisymm h2 h1
      obtain rfl : sf = p0.2.2 := UInt64.le_antisymm h4 h3
      exact ⟨hb.ok0, PartsLe.refl _, hb.le⟩
    | false => cases r with
      | true =>
        obtain rfl := he.hr rfl
        refine ⟨UInt64.le_refl _, fun si h1 h2 => ⟨UInt64.le_refl _, fun sf h3 h4 => ?_⟩⟩
        obtain rfl : si = p1.2.1 := UInt64.le_antisymm h2 h1
        obtain rfl : sf = p1.2.2 := UInt64.le_antisymm h4 h3
        exact ⟨hb.ok1, hb.le, PartsLe.refl _⟩
      | false =>
        obtain ⟨n1, n2, m⟩ := switches_spec f hf hb he.lo he.hi
        exact ⟨n1, fun si h1 h2 => ⟨n2 si h1 h2, fun sf h3 h4 => (m si sf).mp ⟨⟨h1, h2⟩, h3, h4⟩⟩⟩
  rw [ufloatSignif_eq]
  refine Spec.bind (s' := true)
    (q := fun (x : UInt64 × Bool × Bool) k => sfDraw ft (sfBounds f.S p0 p1 e l r x.1) fuel fun sf => k (x.1, sf))
    (spec_uintRange ft _ _ false fuel ranges.1) ?_
  intro x ⟨⟨hx1, hx2⟩, _⟩
  refine ((spec_sfDraw ft _ fuel (ranges.2 x.1 hx1 hx2).1).map fun sf => (x.1, sf)).mono ?_
  rintro _ ⟨sf, ⟨h3, h4⟩, rfl⟩
  exact (ranges.2 x.1 hx1 hx2).2 sf h3 h4

def encTri (a : Int64 × Bool × Bool) : Val := vTri a.1.toInt a.2.1 a.2.2
def encPair (x : UInt64 × UInt64) : Val := .cons (uv x.1) (.cons (uv x.2) .nil)

theorem vTriGet_enc (a : Int64 × Bool × Bool) : vTriGet (encTri a) = (a.1.toInt, a.2.1, a.2.2) := rfl
theorem vPairGet_enc (x : UInt64 × UInt64) : vPairGet (encPair x) = x := by
  simp [vPairGet, encPair, vu_uv]

/-- the assertion `min >= 0 && min <= max` of `genUfloatRange`, in keys -/
theorem ufloatAssert_iff (f : FFmt) (min max : UInt64) :
    (f.ge0 min && f.fle min max) = true ↔ 0 ≤ f.key min ∧ f.key min ≤ f.key max := by
  rw [Bool.and_eq_true, f.ge0_iff, f.fle_iff]

/-- what `genUfloatRange` hands on: valid parts that denote a magnitude between the keys of `min` and `max` -/
def UfloatOK (f : FFmt) (min max : UInt64) (x : Int × UInt64 × UInt64) : Prop :=
  PartsOK f x.1 x.2.1.toNat x.2.2.toNat ∧
  f.key min ≤ fval f x.1 x.2.1.toNat x.2.2.toNat ∧ (fval f x.1 x.2.1.toNat x.2.2.toNat : Int) ≤ f.key max

theorem inRange_iff (f : FFmt) (hf : f.WF) {min max : UInt64} (h : 0 ≤ f.key min ∧ f.key min ≤ f.key max) :
    BoundsOK f (f.parts min) (f.parts max) ∧ ∀ x, InRange f (f.parts min) (f.parts max) x ↔ UfloatOK f min max x := by
  obtain ⟨ok0, v0⟩ := parts_ok f hf min
  obtain ⟨ok1, v1⟩ := parts_ok f hf max
  have k0 := f.key_eq_mag h.1
  have k1 := f.key_eq_mag (Int.le_trans h.1 h.2)
  refine ⟨⟨ok0, ok1, (partsLe_iff f ok0 ok1).mpr (by rw [v0, v1]; exact Int.ofNat_le.mp (k0 ▸ k1 ▸ h.2))⟩,
    fun x => and_congr_right fun hx => ?_⟩
  rw [partsLe_iff f ok0 hx, partsLe_iff f hx ok1, v0, v1, k0, k1, Int.ofNat_le, Int.ofNat_le]

theorem spec_ufloatRange (ft : FT) (f : FFmt) (hf : f.WF) (min max : UInt64) (fuel : Nat)
    (h : 0 ≤ f.key min ∧ f.key min ≤ f.key max) :
    Spec true (fun (k : Int × UInt64 × UInt64 → Prog) => ufloatRange ft f min max fuel (fun e si sf => k (e, si, sf)))
      (UfloatOK f min max) := by
  obtain ⟨hb, hin⟩ := inRange_iff f hf h
  have r0 := ofInt_exp f hf hb.ok0
  have r1 := ofInt_exp f hf hb.ok1
  have hmm : Int64.ofInt (f.parts min).1 ≤ Int64.ofInt (f.parts max).1 := by
    rw [Int64.le_iff_toInt_le, r0, r1]; exact hb.le.1
  simp only [ufloatRange, (ufloatAssert_iff f min max).mpr h, Bool.not_true, Bool.false_eq_true, if_false]
  refine Spec.bind (s' := true) ((spec_intRange ft _ _ fuel hmm).group floatExpLabel false encTri) ?_
  rintro _ ⟨a, ⟨⟨ha1, ha2⟩, hfl, hfr⟩, rfl⟩
  rw [vTriGet_enc]
  have he : ExpOK (f.parts min) (f.parts max) a.1.toInt a.2.1 a.2.2 :=
    ⟨r0 ▸ Int64.le_iff_toInt_le.mp ha1, r1 ▸ Int64.le_iff_toInt_le.mp ha2, fun h => by rw [hfl h, r0], fun h => by rw [hfr h, r1]⟩
  refine (((spec_ufloatSignif ft f hf hb he fuel).group floatSignifLabel false encPair).map
    fun v2 => (a.1.toInt, (vPairGet v2).1, (vPairGet v2).2)).mono ?_
  rintro _ ⟨_, ⟨x, hx, rfl⟩, rfl⟩
  rw [vPairGet_enc]
  exact (hin _).mp hx

/-- the contract of the float generators on bit patterns: inside `[min, max]` in the order of the
    real numbers (with `-0 = +0`), and not a NaN -/
def FloatOK (f : FFmt) (min max b : UInt64) : Prop :=
  f.fle min b = true ∧ f.fle b max = true ∧ f.isNaN b = false

theorem fromParts_spec (f : FFmt) (hf : f.WF) (sign : Bool) {e : Int} {si sf : UInt64}
    (hok : PartsOK f e si.toNat sf.toNat) :
    (f.mag (f.fromParts sign e si sf)).toNat = fval f e si.toNat sf.toNat ∧
    f.isNeg (f.fromParts sign e si sf) = sign := by
  have hv := ufromParts_toNat f hf hok
  have hlt : (f.ufromParts e si sf).toNat < 2 ^ (f.S + f.E) := by rw [hv]; exact fval_lt f hok
  cases sign
  · simp only [FFmt.fromParts, Bool.false_eq_true, if_false]
    rw [f.mag_of_lt hf hlt, f.isNeg_of_lt hf hlt]; exact ⟨hv, rfl⟩
  · simp only [FFmt.fromParts, if_true]
    rw [f.mag_fneg hf, f.isNeg_fneg hf, f.mag_of_lt hf hlt, f.isNeg_of_lt hf hlt]; exact ⟨hv, rfl⟩

/-- the bounds of the call of `genUfloatRange` that `genFloatRange` makes for the sign `neg`: `min` (`-max`) cut off at
    zero, and `max` (`-min`) -/
def signedCall (f : FFmt) (min max : UInt64) (neg : Bool) : UInt64 × UInt64 :=
  if neg then (if f.ge0 min then 0 else if f.le0 max then f.fneg max else 0, f.fneg min)
  else (if f.ge0 min then min else 0, max)

theorem floatValue_eq (ft : FT) (f : FFmt) (min max : UInt64) (fuel : Nat) :
    floatValue ft f min max fuel = fun k =>
      coin (if f.ge0 min then thrNever else if f.le0 max then thrAlways else ft.coinHalf) fun neg =>
        ufloatRange ft f (signedCall f min max neg).1 (signedCall f min max neg).2 fuel fun e si sf =>
          k (f.fromParts neg e si sf) := by
  funext k
  unfold floatValue floatRange
  exact congrArg (coin _) (funext fun neg => by cases neg <;> rfl)

/-- in keys, the call for the sign `neg` ranges over the magnitudes `v` for which `K neg v` lies in `[min, max]` (the
    contract reads this from left to right, reachability from right to left); `hs` is what the sign coin guarantees of
    `neg` -/
theorem signedCall_keys (f : FFmt) (hf : f.WF) (min max : UInt64) (neg : Bool)
    (hs : if neg then ¬ f.ge0 min = true else f.ge0 min = true ∨ ¬ f.le0 max = true) :
    0 ≤ f.key (signedCall f min max neg).1 ∧
    (f.key min ≤ f.key max → f.key (signedCall f min max neg).1 ≤ f.key (signedCall f min max neg).2) ∧
    ∀ v : Nat, f.key (signedCall f min max neg).1 ≤ v ∧ (v : Int) ≤ f.key (signedCall f min max neg).2 ↔
      f.key min ≤ K neg v ∧ K neg v ≤ f.key max := by
  cases neg with
  | false =>
    simp only [signedCall, Bool.false_eq_true, if_false, apply_ite f.key, f.key_zero, K, f.ge0_iff, f.le0_iff] at hs ⊢
    refine ⟨?_, ?_, fun v => ?_⟩ <;> omega
  | true =>
    rw [if_pos rfl] at hs
    simp only [signedCall, if_true, if_neg hs, apply_ite f.key, f.key_zero, f.key_fneg hf, K, f.le0_iff]
    rw [f.ge0_iff] at hs
    refine ⟨?_, ?_, fun v => ?_⟩ <;> omega

/-- **`Float32Range` / `Float64Range` (`genFloatRange`)**: when the constructor's assertions hold, the float handed on is in
    `[min, max]` and not a NaN, for every bit source.  Either branch of the sign coin is one `genUfloatRange`, whose contract
    is in magnitudes (`main`); the negative one runs on the negated, swapped bounds. -/
theorem spec_floatValue (ft : FT) (f : FFmt) (hf : f.WF) (min max : UInt64) (fuel : Nat)
    (hok : floatRangeOK f min max = true) :
    Spec true (floatValue ft f min max fuel) (FloatOK f min max) := by
  rw [floatRangeOK_iff, f.not_isNaN_iff, f.not_isNaN_iff] at hok
  obtain ⟨hn0, hn1, hfle⟩ := hok
  -- a value between the bounds is not a NaN, since the bounds are not
  have main : ∀ neg : Bool, (if neg then ¬ f.ge0 min = true else f.ge0 min = true ∨ ¬ f.le0 max = true) →
      Spec true (fun k => ufloatRange ft f (signedCall f min max neg).1 (signedCall f min max neg).2 fuel
        fun e si sf => k (f.fromParts neg e si sf)) (FloatOK f min max) := by
    intro neg hs
    obtain ⟨h0, h01, hv⟩ := signedCall_keys f hf min max neg hs
    refine ((spec_ufloatRange ft f hf _ _ fuel ⟨h0, h01 hfle⟩).map fun x => f.fromParts neg x.1 x.2.1 x.2.2).mono ?_
    rintro _ ⟨x, ⟨hpok, hx⟩, rfl⟩
    obtain ⟨hm, hs⟩ := fromParts_spec f hf neg hpok
    have hkey : f.key (f.fromParts neg x.1 x.2.1 x.2.2) = K neg (fval f x.1 x.2.1.toNat x.2.2.toNat) := by
      rw [f.key_eq, hs, hm]
    obtain ⟨a, b⟩ := (hv _).mp hx
    rw [← hkey] at a b
    exact ⟨(f.fle_iff _ _).mpr a, (f.fle_iff _ _).mpr b, (f.not_isNaN_iff _).mpr ⟨Int.le_trans hn0.1 a, Int.le_trans b hn1.2⟩⟩
  rw [floatValue_eq]
  exact Spec.signCoin _ _ _ (main false) (main true)

end Rapid
