/-
  C02 — no falsification is lost.
  `Ev.signal` is emitted by `T.Error/Errorf/Fail` (and by `Fatal*/FailNow`, which set `failed`
  before they panic) wherever they are called: body, `Repeat` action or invariant, Custom
  function (inner `*T`), cleanup callback of either `*T`.
-/
import RapidModel.Generated.CallOrders
import RapidProofs.FindBug
import RapidProofs.Signals

namespace Rapid.C02

/-- a non-fatal (or fatal) failure signal anywhere in the test case ⇒ the test case ends with
    an error that is not "invalid" -/
theorem signal_fails_test_case (p : Prog) (src : Src) (ts : TS)
    (h : ts.failed.isSome ∨ Ev.signal ∈ (checkOnce p src ts).evs) :
    ∃ e, (checkOnce p src ts).err = some e ∧ e.isInvalid = false :=
  checkOnce_signal p src ts h

/-- a panic with any value (incl. runtime errors) that ends the body falsifies the test case — whatever the
    cleanup callbacks do afterwards: one that fails is reported instead (still a failure), one that skips
    cannot turn the falsified test case into an invalid one (what /repo's `fix:` commit "a cleanup function
    that skips…" established) -/
theorem panic_fails_test_case (p : Prog) (src : Src) (ts : TS) (e : Err)
    (hb : ((bodyOf p).run src { ts with ctxCount := 0 }).res = .error e) (he : e.isInvalid = false) :
    ∃ e', (checkOnce p src ts).err = some e' ∧ e'.isInvalid = false :=
  checkOnce_body_error p src ts e hb he

/-- a panic followed by a cleanup that skips -/
example : (checkOnce (.cleanup (.throw (.invalid "skip")) (.throw (.panic "boom" 1))) (.buf []) TS.fresh).err
    = some (.panic "boom" 1) := by decide

/-- …and inside a Custom function whose own cleanup skips -/
example : (checkOnce (.inner (.cleanup (.throw (.invalid "skip")) (.throw (.panic "boom" 1))) .ret) (.buf []) TS.fresh).err
    = some (.panic "boom" 1) := by
  simp [checkOnce, Prog.run, Out.ofRes, cleanupPhase, TS.fresh, runStack, stackSize, CTree.run, CTree.size, pickErr,
    Err.isInvalid]

/-- a falsified test case fails the enclosing test -/
theorem falsified_fails_tb (p : Prog) (checks : Nat) (seed : UInt64) (files : List FF)
    (early : Nat → Bool) (cands : List (List UInt64))
    (h : (doCheck p checks seed files early cands).err1.isSome ∨ (doCheck p checks seed files early cands).err2.isSome) :
    (verdict checks (doCheck p checks seed files early cands)).failsTB = true :=
  failing_case_fails_tb p checks seed files early cands h

/-- `findBug` never blames a skipped test case -/
theorem skip_never_blamed (p : Prog) (checks : Nat) (seed : UInt64) (early : Nat → Bool) (e : Err)
    (h : (findBug p checks seed early).err = some e) : e.isInvalid = false :=
  (findBug_blame p checks seed early e h).1

/-- skipping alone gives "invalid", which is not a failure -/
example : (checkOnce (Prog.skip "s") (.buf []) TS.fresh).err = some (.invalid "s") := by decide
/-- Errorf inside a Custom function (inner `*T`) is not lost: `failOnError` at the end of the
    body of the parent sees it -/
example : (checkOnce (.inner (.errorf "in custom" (.ret .nil)) .ret) (.buf []) TS.fresh).err
    = some (.stop "in custom" sitePending) := by
  simp [checkOnce, Prog.run, Out.ofRes, cleanupPhase, TS.fresh, runStack, stackSize, Out.after]
/-- …nor from a cleanup registered on the inner `*T` -/
example : (checkOnce (.inner (.cleanup (.errorf "late" .done) (.ret .nil)) .ret) (.buf []) TS.fresh).err
    = some (.stop "late" sitePending) := by
  simp [checkOnce, Prog.run, Out.ofRes, cleanupPhase, TS.fresh, runStack, stackSize, Out.after,
    CTree.run, CTree.size, pickErr]

/-- `T.fail` re-read from /repo statement by statement: the failure is recorded on this `T` and handed to the parent `T` *recursively* (so that it reaches the test case through any nesting of Custom functions); `now` panics with `stopTest` -/
theorem fail_body_source : Rapid.Generated.body_T_fail =
    ["{", "t.mu.Lock()", "defer t.mu.Unlock()", "t.failed = stopTest(msg)", "t.didFail = true",
     "if t.parent != nil {", "t.parent.fail(false, msg)", "}", "if now {", "panic(t.failed)", "}", "}"] := by rfl

/-- `T.failOnError` re-read from /repo statement by statement: a recorded non-fatal failure becomes a `stopTest` panic -/
theorem failOnError_body_source : Rapid.Generated.body_T_failOnError =
    ["{", "t.mu.RLock()", "defer t.mu.RUnlock()", "if t.didFail {", "panic(t.failed)", "}", "}"] := by rfl

/-- `customGen.maybeValue` re-read from /repo statement by statement: the function runs on a fresh `T` whose parent is the caller's; only invalid data is swallowed (the attempt is rejected), every other panic goes on -/
theorem maybeValue_body_source : Rapid.Generated.body_customGen_maybeValue =
    ["{", "parent := t", "t = newT(t.tb, t.s, flags.debug, nil)", "t.parent = parent", "failing := false",
     "defer t.cleanupCustom(&failing)", "defer func() {", "if r := recover(); r != nil {",
     "if _, ok := r.(invalidData); !ok {", "failing = true", "panic(r)", "}", "}", "}()", "return g.fn(t), true", "}"] := by rfl

/-- `checkOnce` re-read from /repo statement by statement -/
theorem checkOnce_body_source : Rapid.Generated.body_checkOnce =
    ["{", "if t.tbLog {", "t.tb.Helper()", "}", "err := runProp(t, prop)", "if err == nil || err.isInvalidData() {",
     "if failed := pendingFailure(t); failed != nil {", "err = failed", "}", "}", "t.resetFailed()", "return err",
     "}"] := by rfl

/-- `runProp` re-read from /repo statement by statement: `panicToError(recover())` around the property, the cleanups deferred -/
theorem runProp_body_source : Rapid.Generated.body_runProp =
    ["{", "if t.tbLog {", "t.tb.Helper()", "}", "defer func() {", "err = panicToError(recover(), 3)",
     "if id := t.takeSkipped(); id != nil && err == nil {", "err = &testError{data: *id}", "}", "}()",
     "defer t.cleanup()", "prop(t)", "return nil", "}"] := by rfl

end Rapid.C02
