/-
  The one evaluation of the geometric tables measured on the real `genGeom` (Generated/Thresholds.lean, regenerated on every
  run).  C18 reads reachability off it, C03 the length bound of `FloatFacts`.
-/
import RapidModel.Generated.Thresholds
import RapidProofs.Reach

namespace Rapid

theorem measured_tablesOK : tablesOK Rapid.Generated.ft = true := by decide +kernel

end Rapid
