/-
  RapidProofs.FsAtomic — every prefix of the file-system operations of `saveFailFile` leaves
  every path other than the temporary one either untouched or — the final name only —
  holding the complete content.
-/
import RapidModel.Persist

namespace Rapid

theorem fs_get_set_same (fs : Fs) (p : String) (d : Bytes) : (fs.set p d).get p = some d := by
  simp [Fs.get, Fs.set]

theorem fs_get_del_ne (fs : Fs) (p q : String) (h : q ≠ p) : (fs.del p).get q = fs.get q := by
  simp only [Fs.get, Fs.del, List.find?_filter]
  congr; funext x
  by_cases hx : x.1 = q <;> simp [hx, h]

theorem fs_get_set_ne (fs : Fs) (p q : String) (d : Bytes) (h : q ≠ p) : (fs.set p d).get q = fs.get q := by
  rw [← fs_get_del_ne fs p q h]
  simp only [Fs.get, Fs.set, Fs.del, List.find?_cons, beq_false_of_ne (Ne.symm h)]

theorem fs_get_del_same (fs : Fs) (p : String) : (fs.del p).get p = none := by
  simp [Fs.get, Fs.del, List.find?_filter]

def Staged (fs0 fs : Fs) (tmp : String) (content : Bytes) : Prop :=
  fs.get tmp = some content ∧ ∀ q, q ≠ tmp → fs.get q = fs0.get q

theorem applyOps_append (fs : Fs) (a b : List FsOp) : applyOps fs (a ++ b) = applyOps (applyOps fs a) b := by
  simp [applyOps, List.foldl_append]

theorem staged_write {fs0 fs : Fs} {tmp : String} {c : Bytes} (h : Staged fs0 fs tmp c) (d : Bytes) :
    Staged fs0 (FsOp.apply fs (.write tmp d)) tmp (c ++ d) := by
  simp only [FsOp.apply, h.1]
  exact ⟨fs_get_set_same _ _ _, fun q hq => by rw [fs_get_set_ne _ _ _ _ hq]; exact h.2 q hq⟩

theorem staged_writes (fs0 : Fs) (tmp : String) : ∀ (chunks : List Bytes) (fs : Fs) (c : Bytes),
    Staged fs0 fs tmp c → Staged fs0 (applyOps fs (chunks.map (.write tmp))) tmp (c ++ chunks.flatten) := by
  intro chunks
  induction chunks with
  | nil => intro fs c h; simpa [applyOps] using h
  | cons d ds ih =>
    intro fs c h
    simpa [applyOps, List.append_assoc] using ih _ _ (staged_write h d)

/-- what a later run can see at a path other than the temporary one -/
def SafeAt (fs0 fs : Fs) (final : String) (content : Bytes) (q : String) : Prop :=
  fs.get q = fs0.get q ∨ (q = final ∧ fs.get q = some content)

/-- `P` holds before the operations and after each of them -/
def AtEveryPrefix (P : Fs → Prop) : Fs → List FsOp → Prop
  | fs, [] => P fs
  | fs, op :: ops => P fs ∧ AtEveryPrefix P (op.apply fs) ops

theorem AtEveryPrefix.elim {P : Fs → Prop} {ops : List FsOp} : ∀ {fs : Fs}, AtEveryPrefix P fs ops →
    ∀ pre post, ops = pre ++ post → P (applyOps fs pre) := by
  induction ops with
  | nil => intro fs h pre post e; rw [(List.append_eq_nil_iff.mp e.symm).1]; exact h
  | cons op ops ih =>
    intro fs h pre post e
    cases pre with
    | nil => exact h.1
    | cons a pre =>
      rw [List.cons_append, List.cons.injEq] at e
      exact e.1 ▸ ih h.2 pre post e.2

/-- **crash atomicity**: after ANY prefix of the operations of `saveFailFile` (a kill before
    each system call), every path except the temporary file is untouched, or is the final
    name holding the complete content. -/
theorem save_prefix_safe (fs0 : Fs) (dir tmp final : String) (chunks : List Bytes)
    (hfresh : fs0.get tmp = none) (hne : final ≠ tmp) :
    ∀ (pre post : List FsOp), saveOps dir tmp final chunks = pre ++ post →
      ∀ q, q ≠ tmp → SafeAt fs0 (applyOps fs0 pre) final chunks.flatten q := by
  intro pre post hsplit q hq
  have hwrites : ∀ (l : List Bytes) (fs : Fs) (c : Bytes), Staged fs0 fs tmp c →
      AtEveryPrefix (SafeAt fs0 · final (c ++ l.flatten) q) fs
        (l.map (.write tmp) ++ [FsOp.close tmp, .rename tmp final, .remove tmp]) := by
    intro l
    induction l with
    | nil =>
      intro fs c hst
      have hren : SafeAt fs0 ((fs.del tmp).set final c) final c q := by
        by_cases hqf : q = final
        · exact Or.inr ⟨hqf, hqf ▸ fs_get_set_same _ _ _⟩
        · exact Or.inl (by rw [fs_get_set_ne _ _ _ _ hqf, fs_get_del_ne _ _ _ hq]; exact hst.2 q hq)
      simp only [List.flatten_nil, List.append_nil, List.map_nil, List.nil_append, AtEveryPrefix, FsOp.apply,
        hst.1]
      refine ⟨Or.inl (hst.2 q hq), Or.inl (hst.2 q hq), hren, ?_⟩
      simpa only [SafeAt, fs_get_del_ne _ _ _ hq] using hren
    | cons d ds ih =>
      intro fs c hst
      rw [List.map_cons, List.cons_append, AtEveryPrefix, List.flatten_cons, ← List.append_assoc]
      exact ⟨Or.inl (hst.2 q hq), ih _ _ (staged_write hst d)⟩
  have hcreate : Staged fs0 (FsOp.apply fs0 (.createExcl tmp)) tmp [] := by
    simp only [FsOp.apply, hfresh, Option.isSome_none, Bool.false_eq_true, if_false]
    exact ⟨fs_get_set_same _ _ _, fun q hq => fs_get_set_ne _ _ _ _ hq⟩
  refine (?_ : AtEveryPrefix (SafeAt fs0 · final chunks.flatten q) fs0 (saveOps dir tmp final chunks)).elim pre post hsplit
  simp only [saveOps, List.cons_append, List.nil_append, AtEveryPrefix]
  exact ⟨Or.inl rfl, Or.inl rfl, hwrites chunks _ [] hcreate⟩

/-- a name whose last element is not the last element of `suf` does not match `<pre>*<suf>`.  It covers rapid's
    temporary names: `os.CreateTemp` puts a decimal number in place of the final `*` of `.rapid-failfile-tmp-*`, so they
    end in a digit, and the suffix of `failFilePattern` is `.fail` -/
theorem tmp_not_matched (pre suf : List Nat) (name : List Nat) (hs : suf ≠ [])
    (hlast : name.getLast? ≠ suf.getLast?) : starMatch pre suf name = false := by
  have : suf.isSuffixOf name = false := by
    rw [Bool.eq_false_iff, ne_eq, List.isSuffixOf_iff_suffix]
    rintro ⟨t, rfl⟩
    exact hlast (by rw [List.getLast?_append, List.getLast?_eq_some_getLast hs]; rfl)
  simp only [starMatch, this, Bool.and_false, Bool.false_and]

end Rapid
