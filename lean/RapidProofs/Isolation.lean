/-
  RapidProofs.Isolation — the parts of `*T` that survive `checkOnce` are the draw counter and
  `ctxCount`; `checkOnce` resets the latter on entry and no program can observe the absolute
  value of the former: a test case run on the reused `*T` of `findBug` is the test case run
  on a fresh one.
-/
import RapidProofs.Once
import RapidProofs.Cleanups

namespace Rapid

def TS.shift (d : Nat) (ts : TS) : TS := { ts with draws := ts.draws + d }
def Out.shift (d : Nat) (o : Out) : Out := { o with ts := o.ts.shift d }
def COut.shift (d : Nat) (o : COut) : COut := { o with ts := o.ts.shift d }

@[simp] theorem shift_failed (d : Nat) (ts : TS) : (ts.shift d).failed = ts.failed := rfl
@[simp] theorem shift_cleanups (d : Nat) (ts : TS) : (ts.shift d).cleanups = ts.cleanups := rfl
@[simp] theorem shift_ctx (d : Nat) (ts : TS) : (ts.shift d).ctx = ts.ctx := rfl
@[simp] theorem shift_ctxCount (d : Nat) (ts : TS) : (ts.shift d).ctxCount = ts.ctxCount := rfl
@[simp] theorem shift_draws (d : Nat) (ts : TS) : (ts.shift d).draws = ts.draws + d := rfl

/- the numbering of the cases of `CTree.run` and `runStack` is given in Cleanups.lean -/

theorem ctree_run_shift (c : CTree) (ts : TS) (d : Nat) : c.run (ts.shift d) = (c.run ts).shift d := by
  fun_induction CTree.run c ts with
  | case1 | case4 => rfl
  | case2 id _ _ _ ih => exact congrArg (fun o : COut => { o with evs := .user id :: o.evs }) ih
  | case3 _ _ _ _ ih => exact congrArg (fun o : COut => { o with evs := .signal :: o.evs }) ih
  | case5 _ _ _ ih => exact ih
  | case6 _ ts _ ih => exact congrArg (fun o : COut => { o with evs := .ctx ts.ctxCount false :: o.evs }) ih

theorem runStack_shift (fuel : Nat) (ts : TS) (d : Nat) :
    runStack fuel (ts.shift d) = (runStack fuel ts).shift d ∧ runStackErrs fuel (ts.shift d) = runStackErrs fuel ts := by
  fun_induction runStack fuel ts with
  | case1 => exact ⟨rfl, rfl⟩
  | case2 _ _ hc => simp only [runStack, runStackErrs, shift_cleanups, hc]; exact ⟨rfl, trivial⟩
  | case3 _ ts c rest hc o1 o2 ih =>
    simp only [runStack, runStackErrs, shift_cleanups, hc]
    rw [show c.run { ts.shift d with cleanups := rest } = o1.shift d from ctree_run_shift c { ts with cleanups := rest } d,
      show runStack _ (o1.shift d).ts = o2.shift d from ih.1, show runStackErrs _ (o1.shift d).ts = _ from ih.2]
    exact ⟨rfl, rfl⟩

theorem cleanupCtx_shift (res : Except Err Val) (ts : TS) (d : Nat) : cleanupCtx res (ts.shift d) = cleanupCtx res ts := by
  simp only [cleanupCtx, shift_ctx]
  cases ts.ctx with
  | none => simp only [shift_cleanups, (runStack_shift ..).2]
  | some id =>
    rw [show ({ ts.shift d with ctx := none } : TS) = ({ ts with ctx := none } : TS).shift d from rfl, shift_cleanups,
      (runStack_shift ..).2]

theorem cleanupPhase_shift (ts : TS) (d : Nat) : cleanupPhase (ts.shift d) = (cleanupPhase ts).shift d := by
  rw [cleanupPhase_eq, cleanupPhase_eq,
    show ({ ts.shift d with ctx := none } : TS) = ({ ts with ctx := none } : TS).shift d from rfl, shift_cleanups,
    (runStack_shift ..).1]
  rfl

@[simp] theorem ofRes_shift (r : Except Err Val) (src : Src) (ts : TS) (d : Nat) :
    (Out.ofRes r src ts).shift d = Out.ofRes r src (ts.shift d) := rfl

@[simp] theorem after_shift (o : Out) (u k : List UInt64) (t : List Tok) (e : List Ev) (ov : Bool) (d : Nat) :
    (o.after u k t e ov).shift d = (o.shift d).after u k t e ov := rfl

@[simp] theorem shift_res (o : Out) (d : Nat) : (o.shift d).res = o.res := rfl
@[simp] theorem shift_src (o : Out) (d : Nat) : (o.shift d).src = o.src := rfl
@[simp] theorem shift_used (o : Out) (d : Nat) : (o.shift d).used = o.used := rfl
@[simp] theorem shift_kept (o : Out) (d : Nat) : (o.shift d).kept = o.kept := rfl
@[simp] theorem shift_toks (o : Out) (d : Nat) : (o.shift d).toks = o.toks := rfl
@[simp] theorem shift_evs (o : Out) (d : Nat) : (o.shift d).evs = o.evs := rfl
@[simp] theorem shift_overran (o : Out) (d : Nat) : (o.shift d).overran = o.overran := rfl
@[simp] theorem shift_ts (o : Out) (d : Nat) : (o.shift d).ts = o.ts.shift d := rfl

/-- no program observes the absolute value of `t.draws` -/
theorem run_shift (p : Prog) : ∀ (src : Src) (ts : TS) (d : Nat), p.run src (ts.shift d) = (p.run src ts).shift d := by
  induction p with
  | ret v | throw e => intro src ts d; rfl
  | draw n k ih =>
    intro src ts d
    simp only [Prog.run]
    cases src.next n with
    | none => rfl
    | some r => simp only [ih, after_shift]
  | group l s b dd k ihb ihk =>
    intro src ts d
    simp only [Prog.run, ihb, shift_res, shift_used, shift_kept, shift_toks, shift_evs, shift_overran, shift_src, shift_ts]
    cases (b.run src ts).res with
    | error e => rfl
    | ok v =>
      dsimp only
      by_cases hc : (!dd v && (b.run src ts).used.isEmpty) = true
      · rw [if_pos hc, if_pos hc]; rfl
      · rw [if_neg hc, if_neg hc, ihk, after_shift]
  | catchInv b k ihb ihk =>
    intro src ts d
    simp only [Prog.run, ihb, shift_res, shift_used, shift_kept, shift_toks, shift_evs, shift_overran, shift_src, shift_ts,
      shift_draws]
    -- what `catchInv` tells its continuation is whether the counter moved, not where it stands
    have hd : ((b.run src ts).ts.draws + d != ts.draws + d) = ((b.run src ts).ts.draws != ts.draws) := by
      rw [Bool.eq_iff_iff]; simp
    cases (b.run src ts).res with
    | ok v => simp only [hd, ihk, after_shift]
    | error e =>
      cases e with
      | invalid m => simp only [hd, ihk, after_shift]
      | stop _ _ | panic _ _ | fuel => rfl
  -- where the continuation runs on a changed `*T` the hypothesis is used backwards: what it leaves is that
  -- `{ ts with failed := _ }.shift d` is `{ ts.shift d with failed := _ }`, by `rfl`, and so for every field but `draws` (`tick`)
  | errorf m k ih => intro src ts d; simp only [Prog.run, after_shift]; rw [← ih]; rfl
  | emit id k ih => intro src ts d; simp only [Prog.run, ih, after_shift]
  | failOnError site k ih =>
    intro src ts d
    simp only [Prog.run, shift_failed]
    cases ts.failed with
    | some m => rfl
    | none => exact ih src ts d
  | tick k ih =>
    intro src ts d
    have : ({ ts.shift d with draws := (ts.shift d).draws + 1 } : TS) = ({ ts with draws := ts.draws + 1 } : TS).shift d :=
      congrArg (fun n => ({ ts with draws := n } : TS)) (Nat.add_right_comm ts.draws d 1)
    simp only [Prog.run]; rw [← ih, this]
  | cleanup c k ih => intro src ts d; simp only [Prog.run]; rw [← ih]; rfl
  | ctx k ih =>
    intro src ts d
    simp only [Prog.run, shift_ctx, shift_ctxCount]
    cases ts.ctx with
    | some id => simp only [ih, after_shift]
    | none => simp only [after_shift]; rw [← ih]; rfl
  | inner b k ihb ihk =>
    intro src ts d
    simp only [Prog.run, shift_failed]
    cases (cleanupPhase (b.run src TS.fresh).ts).err with
    | some e => rfl
    | none =>
      dsimp only
      cases (b.run src TS.fresh).res with
      | error e => rfl
      | ok v =>
        dsimp only
        rw [after_shift, ← ihk]; rfl

theorem clean_eq_shift {ts : TS} (h : Clean ts) : ({ ts with ctxCount := 0 } : TS) = TS.fresh.shift ts.draws := by
  obtain ⟨_, _, _, _, _⟩ := ts
  obtain ⟨rfl, rfl, rfl⟩ := h
  simp [TS.fresh, TS.shift]

/-- **isolation**: on a clean `*T` a test case gives the error it gives on a fresh one, makes the
    same recording and emits the same events. -/
theorem checkOnce_clean (p : Prog) (src : Src) {ts : TS} (h : Clean ts) :
    (checkOnce p src ts).err = (checkOnce p src TS.fresh).err ∧
    (checkOnce p src ts).used = (checkOnce p src TS.fresh).used ∧
    (checkOnce p src ts).kept = (checkOnce p src TS.fresh).kept ∧
    (checkOnce p src ts).evs = (checkOnce p src TS.fresh).evs ∧
    (checkOnce p src ts).src = (checkOnce p src TS.fresh).src := by
  have e1 := clean_eq_shift h
  simp only [checkOnce_def, e1, fresh_ctxCount, run_shift, shift_ts, cleanupPhase_shift, cleanupCtx_shift, shift_res, shift_src, shift_used,
    shift_kept, shift_evs]
  simp [COut.shift]

end Rapid
