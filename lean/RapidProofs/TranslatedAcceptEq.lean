/-
  shrink.go `shrinker.accept`, translated from the source on every run (check mode with the shrinker's own state — current test
  case, error, cache, counters — as variables; `RapidModel/GoCheck.lean`: the two runs are `once` requests, `s.rec =
  s2.recordedBits; s.rec.prune()` is the request `pruned`, `panic(err2)` the panic `mismatch`), proved to be the model's
  `SS.accept` (`RapidModel/Passes.lean`) — the oracle that the translated passes of the shrinker are run against
  (`TranslatedShrinkRun.lean`: `runOracle`).
-/
import RapidProofs.Shortlex
import RapidProofs.TranslatedCheckEq
import RapidProofs.TranslatedMinEq

namespace Rapid.Go

/-- the source compares `compareData(..)` with 0 as a Go `int`: the three values -1, 0, 1 keep their sign -/
theorem cmp_sign (a b : List UInt64) :
    decide (Int64.ofInt (compareData a b) ≥ (0 : Int64)) = decide (compareData a b ≥ 0) ∧
    decide (Int64.ofInt (compareData a b) ≤ (0 : Int64)) = decide (compareData a b ≤ 0) := by
  rcases compareData_spec a b with ⟨h, _⟩ | ⟨h, _⟩ | ⟨h, _⟩ <;> rw [h] <;> decide

@[simp] theorem CM.run_pruned (E : CEnv) (r : Once) :
    CM.run E CM.pruned (some r) =
      ((if (prunedOfToks r.toks).noEmptyGroup then .ok (prunedOfToks r.toks).data else .error .assertion), some r) := by
  show CScript.run E (CScript.pruned _) (some r) = _
  by_cases h : (prunedOfToks r.toks).noEmptyGroup = true <;> simp [CScript.run, h]

/-- what the translated `accept` hands back for the model's answer: the result, then the shrinker's variables (the groups of the
    current recording are not among them: `accept` does not look at them) -/
def acceptOut (hits : Int64) (r : Bool × SS) : Bool × List UInt64 × ErrV × List (List UInt64) × Int64 × Int64 :=
  (r.1, r.2.rc.data, r.2.err, r.2.cache, hits, Int64.ofNat r.2.shrinks)

/-- **`shrinker.accept` of the source is the model's `SS.accept`**: the same answer and the same new state (test case, error, cache,
    number of accepted steps) for every candidate — a candidate that is not smaller or is in the cache runs nothing; a first run
    with another traceback is remembered in the cache; the second run is the one recorded, pruned, asserted not to be larger and
    compared with the first (`panic(err2)` when it differs) -/
theorem tr_accept (E : CEnv) (s : SS) (buf : List UInt64) (hits : Int64) (fuel : Nat) (o : Option Once)
    (hb : buf.length < 2 ^ 62) (hd : s.rc.data.length < 2 ^ 62) (hf : buf.length < fuel)
    (hk1 : (prunedOfToks (checkOnce E.p (.buf buf) TS.fresh).toks).data.length < 2 ^ 62)
    (hk2 : (prunedOfToks (checkOnce E.p (.buf buf) TS.fresh).toks).data.length < fuel) :
    (CM.run E (Translated.shrinker_acceptC s.rc.data s.err s.cache hits (Int64.ofNat s.shrinks) buf fuel) o).1 =
      match s.accept E.p buf with
      | .ok r => .ok (acceptOut (if compareData buf s.rc.data < 0 ∧ s.cache.contains buf then hits + 1 else hits) r)
      | .error (.mismatch _ _ _) => .error .mismatch
      | .error _ => .error .assertion := by
  have cmp : ∀ (a b : List UInt64) (f : Int64 → Bool) (o : Option Once), a.length < 2 ^ 62 → b.length < 2 ^ 62 → a.length < fuel →
      CM.run E (CM.ofM (Translated.compareData a b fuel) >>= fun r => pure (f r)) o = (.ok (f (Int64.ofInt (compareData a b))), o) :=
    fun a b f o h1 h2 h3 => by rw [tr_compareData a b fuel h1 h2 h3]; rfl
  obtain ⟨r, hr⟩ : ∃ r, checkOnce E.p (.buf buf) TS.fresh = r := ⟨_, rfl⟩
  have once : ∀ o, CM.run E (CM.once (.buf buf)) o = (.ok (r.err, r.used), some r) := fun _ => hr ▸ rfl
  rw [hr] at hk1 hk2
  rw [Translated.shrinker_acceptC, CM.run_bind_ok (cmp _ _ _ _ hb hd hf), (cmp_sign ..).1, SS.accept, hr]
  by_cases h1 : compareData buf s.rc.data ≥ 0
  · rw [if_pos (decide_eq_true h1), if_pos h1,
      if_neg (show ¬ (compareData buf s.rc.data < 0 ∧ s.cache.contains buf = true) from fun h => Int.not_lt.mpr h1 h.1)]
    rfl
  rw [if_neg (by rw [decide_eq_false h1]; exact Bool.false_ne_true), if_neg h1]
  dsimp only
  by_cases h2 : s.cache.contains buf = true
  · rw [if_pos h2, if_pos h2, if_pos (show compareData buf s.rc.data < 0 ∧ s.cache.contains buf = true from ⟨Int.not_le.mp h1, h2⟩)]; rfl
  rw [if_neg h2, if_neg h2, if_neg (show ¬ (compareData buf s.rc.data < 0 ∧ s.cache.contains buf = true) from fun h => h2 h.2),
    CM.run_bind_ok (once o)]
  by_cases h3 : (tbKey r.err != tbKey s.err) = true
  · rw [if_pos h3, if_pos h3]; rfl
  rw [if_neg h3, if_neg h3, CM.run_bind_ok (once _), CM.run_bind, CM.run_pruned]
  by_cases h4 : (prunedOfToks r.toks).noEmptyGroup = true
  · rw [if_pos h4, if_neg (by rw [h4]; exact Bool.false_ne_true)]
    dsimp only
    rw [CM.run_bind_ok (cmp _ _ _ _ hk1 hb hk2), (cmp_sign ..).2]
    by_cases h5 : compareData (prunedOfToks r.toks).data buf > 0
    · rw [if_pos h5, decide_eq_false (Int.not_le.mpr h5)]; rfl
    rw [if_neg h5, decide_eq_true (Int.not_lt.mp h5),
      CM.run_bind_ok (show CM.run E (CM.ofM (assert true)) (some r) = (.ok (), some r) from rfl)]
    by_cases h6 : (!sameError r.err r.err) = true
    · rw [if_pos h6, if_pos h6]; rfl
    · rw [if_neg h6, if_neg h6, i64_ofNat_succ]; rfl
  · rw [if_neg h4, if_pos (by rw [Bool.not_eq_true] at h4; rw [h4]; rfl)]

end Rapid.Go
