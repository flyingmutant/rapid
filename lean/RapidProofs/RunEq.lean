/-
  RapidProofs.RunEq — programs with equal runs, and what preserves that: `if`, a group around one draw, a group around any body, the retry
  loop `findLoop`; the contracts `Yields` and `ReachesVal` move along it.  The theorems that tie translated stream functions to the
  model are stated with it.
-/
import RapidProofs.Bind
import RapidProofs.Fragment

namespace Rapid

def RunEq (p q : Prog) : Prop := ∀ src ts, p.run src ts = q.run src ts

theorem RunEq.refl (p : Prog) : RunEq p p := fun _ _ => rfl
theorem RunEq.symm {p q : Prog} (h : RunEq p q) : RunEq q p := fun s t => (h s t).symm
theorem RunEq.trans {p q r : Prog} (h1 : RunEq p q) (h2 : RunEq q r) : RunEq p r := fun s t => (h1 s t).trans (h2 s t)

theorem RunEq.ite {p1 p2 q1 q2 : Prog} (c : Prop) [Decidable c] (h1 : c → RunEq p1 q1) (h2 : ¬ c → RunEq p2 q2) :
    RunEq (if c then p1 else p2) (if c then q1 else q2) := by
  by_cases hc : c
  · rw [if_pos hc, if_pos hc]; exact h1 hc
  · rw [if_neg hc, if_neg hc]; exact h2 hc

theorem RunEq.draw_group {l : String} {s : Bool} {n : Nat} {f1 f2 : UInt64 → Val} {d1 d2 : Val → Bool} {k1 k2 : Val → Prog}
    (h : ∀ (src : Src) u src', src.next n = some (u, src') → d1 (f1 u) = d2 (f2 u) ∧ RunEq (k1 (f1 u)) (k2 (f2 u))) :
    RunEq (.group l s (.draw n fun u => .ret (f1 u)) d1 k1) (.group l s (.draw n fun u => .ret (f2 u)) d2 k2) := by
  intro src ts
  rw [run_draw_group, run_draw_group]
  cases hn : src.next n with
  | none => rfl
  | some r => simp only [(h src r.1 r.2 hn).1, (h src r.1 r.2 hn).2 _ _]

/-- a group whose body ends by re-encoding its value: only the discard flag and the continuation see the encoding -/
theorem group_congr_map {l : String} {s : Bool} {W : Prog} {fT fM : Val → Val} {dT dM : Val → Bool} {kT kM : Val → Prog}
    (hd : ∀ v, dT (fT v) = dM (fM v)) (hk : ∀ v, RunEq (kT (fT v)) (kM (fM v))) :
    RunEq (.group l s (W >>- fun v => .ret (fT v)) dT kT) (.group l s (W >>- fun v => .ret (fM v)) dM kM) := by
  intro src ts
  cases hres : (W.run src ts).res with
  | error e =>
    have hW (f : Val → Prog) : (W >>- f).run src ts = W.run src ts := bind_run_error hres
    rw [group_run_error (e := e) (by rw [hW]; exact hres), group_run_error (e := e) (by rw [hW]; exact hres), hW, hW]
  | ok v =>
    rw [group_run_ret (bind_run_ok (f := fun v => .ret (fT v)) hres), group_run_ret (bind_run_ok (f := fun v => .ret (fM v)) hres),
      hd v, hk v]

theorem findLoop_congr_map {W : Prog} {fT : Val → Val} (fM : Val → Val) {okT okM : Val → Bool} {kT kM : Val → Prog}
    (hok : ∀ v, okT (fT v) = okM (fM v)) (hk : ∀ v, okT (fT v) = true → RunEq (kT (fT v)) (kM (fM v))) : ∀ n,
    RunEq (findLoop (W >>- fun v => .ret (fT v)) okT kT n) (findLoop (W >>- fun v => .ret (fM v)) okM kM n) := by
  intro n
  induction n with
  | zero => exact RunEq.refl _
  | succ n ih =>
    simp only [findLoop]
    refine group_congr_map (fun v => by rw [hok v]) fun v => ?_
    rw [← hok v]
    exact RunEq.ite _ (hk v) fun _ => ih

theorem bind_ret_runEq (p : Prog) : RunEq (p >>- fun v => .ret v) p := by
  intro src ts
  rw [run_bind]
  simp only [Out.andThen]
  cases hp : p.run src ts with
  | mk res src' ts' used kept toks evs ov =>
    cases res with
    | error e => rfl
    | ok v => simp [Prog.run, Out.ofRes, Out.after]

theorem group_body_congr {l : String} {s : Bool} {b1 b2 : Prog} {d : Val → Bool} {k1 k2 : Val → Prog} (hb : RunEq b1 b2)
    (hk : ∀ v, RunEq (k1 v) (k2 v)) : RunEq (.group l s b1 d k1) (.group l s b2 d k2) := by
  intro src ts
  simp only [Prog.run, hb src ts]
  cases (b2.run src ts).res with
  | error e => rfl
  | ok v => simp only [hk v _ _]

theorem findLoop_body_congr {b1 b2 : Prog} {ok : Val → Bool} {k : Val → Prog} (hb : RunEq b1 b2) : ∀ n,
    RunEq (findLoop b1 ok k n) (findLoop b2 ok k n) := by
  intro n
  induction n with
  | zero => exact RunEq.refl _
  | succ n ih =>
    simp only [findLoop]
    exact group_body_congr hb fun v => RunEq.ite _ (fun _ => RunEq.refl _) fun _ => ih

theorem Yields.of_runEq {α : Type} {p q : (α → Prog) → Prog} {P : α → Prop} (h : ∀ k, RunEq (p k) (q k)) (hq : Yields q P) :
    Yields p P := by
  intro k src ts
  rw [h k src ts]
  exact hq k src ts

theorem ReachesVal.of_runEq {α : Type} {p q : (α → Prog) → Prog} {a : α} (h : ∀ k, RunEq (p k) (q k)) (hq : ReachesVal q a) :
    ReachesVal p a := by
  obtain ⟨ws, hw⟩ := hq
  exact ⟨ws, fun k rest ts => by rw [h k]; exact hw k rest ts⟩

end Rapid
