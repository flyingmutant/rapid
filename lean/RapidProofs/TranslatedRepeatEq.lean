/-
  utils.go `repeat.more` / `repeat.reject`, translated from the source on every run (stream mode: `s.beginGroup`,
  `s.endGroup`, `s.drawBits`, `flipBiasedCoin(s, …)` are requests of a `Go.StScript`; `RapidModel/GoStream.lean` gives
  their meaning on the model's recorder), and the loop every collection generator writes around them
  (`for r.more(s) { …; if refused { r.reject() } }`) proved to be the model's `repeatLoop` (`tr_repeat`).

  What is compared (`Core`): the result, the rest of the source of words, the `*T` state, the tokens recorded —
  groups, their `standalone`/`discard` flags, the words, the zero-bit coin of a forced stop —, the events and the
  overrun flag.  The one place where the source and the model place a token at different times is the close of an
  element's group: the model closes it when the element is done, the source at the next call of `more`; `Pending` /
  `pend` carry that token across the iteration.

  Three steps: `moreT_run` computes one call of the translated `more` (close the pending group, open the next, flip the
  coin); `glue_repeatLoop_some` writes one iteration of the model's loop with the states the script passes through;
  `tr_repeatLoop` is the induction on the fuel that lays the two side by side, `Rel` tying the fields of `repeat` to the
  model's loop state.
-/
import RapidProofs.TranslatedEq
import RapidProofs.TranslatedProgEq

namespace Rapid.Go

structure Core where
  res : Except Err Val
  src : Src
  ts : TS
  toks : List Tok
  evs : List Ev
  overran : Bool

def outCore (o : Out) : Core := ⟨o.res, o.src, o.ts, o.toks, o.evs, o.overran⟩

/-- a panic of rapid's own code as an error of the model; the sites go on from those the model reserves for panics raised
    inside rapid (`siteGroupAssert` = 9001; 9002, 9003 in RapidModel/GoStream.lean) -/
def panicErr : Panic → Err
  | .invalidData m => .invalid m
  | .fuel => .fuel
  | .assertion => .panic "assertion failed" 9004
  | .runtime => .panic "runtime error" 9005
  | .mismatch => .panic "the second run of a candidate differs" 9006

/-- a panic of the Go code leaves the open groups unfinished -/
def StRes.core : StRes (Except Panic Val) → Core
  | .done (.ok v) s => ⟨.ok v, s.src, s.ts, s.toks, s.evs, s.overran⟩
  | .done (.error p) s => ⟨.error (panicErr p), s.src, s.ts, s.abortAll.toks, s.evs, s.overran⟩
  | .fail e s => ⟨.error e, s.src, s.ts, s.toks, s.evs, s.overran⟩

def StM.run {α : Type} (x : StM α) (s : StState) : StRes (Except Panic α) := StScript.run x s

def StRes.bindE {α β : Type} (r : StRes (Except Panic α)) (f : α → StState → StRes (Except Panic β)) : StRes (Except Panic β) :=
  match r with
  | .done (.ok a) s => f a s
  | .done (.error e) s => .done (.error e) s
  | .fail e s => .fail e s

@[simp] theorem StRes.bindE_ok {α β : Type} (a : α) (s : StState) (f : α → StState → StRes (Except Panic β)) :
    (StRes.done (.ok a) s : StRes (Except Panic α)).bindE f = f a s := rfl
@[simp] theorem StRes.bindE_err {α β : Type} (e : Panic) (s : StState) (f : α → StState → StRes (Except Panic β)) :
    (StRes.done (.error e) s : StRes (Except Panic α)).bindE f = .done (.error e) s := rfl
@[simp] theorem StRes.bindE_fail {α β : Type} (e : Err) (s : StState) (f : α → StState → StRes (Except Panic β)) :
    (StRes.fail e s : StRes (Except Panic α)).bindE f = .fail e s := rfl

theorem StScript.run_bind {α β : Type} (x : StScript α) (f : α → StScript β) : ∀ s : StState,
    (x.bind f).run s = match x.run s with | .done a s' => (f a).run s' | .fail e s' => .fail e s' := by
  induction x with
  | ret a => intro s; rfl
  | sub p k ih =>
    intro s
    simp only [StScript.bind, StScript.run]
    cases (p.run s.src s.ts).res with
    | ok v => exact ih v _
    | error e => rfl
  | beginG l st k ih => intro s; exact ih _ _
  | endG i d k ih =>
    intro s
    simp only [StScript.bind, StScript.run]
    cases s.stack with
    | nil => rfl
    | cons hd rest =>
      dsimp only
      split
      · rfl
      · split
        · rfl
        · exact ih _

@[simp] theorem StM.run_bind {α β : Type} (x : StM α) (f : α → StM β) (s : StState) :
    StM.run (x >>= f) s = (StM.run x s).bindE fun a s' => StM.run (f a) s' := by
  refine (StScript.run_bind x _ s).trans ?_
  unfold StM.run
  cases StScript.run x s with
  | done r s' => cases r <;> rfl
  | fail e s' => rfl

@[simp] theorem StM.run_pure {α : Type} (a : α) (s : StState) : StM.run (pure a : StM α) s = .done (.ok a) s := rfl
@[simp] theorem StM.run_ofM {α : Type} (x : M α) (s : StState) : StM.run (StM.ofM x) s = .done x s := rfl
@[simp] theorem StM.run_fuel {α : Type} (s : StState) : StM.run (StM.fuel : StM α) s = .done (.error .fuel) s := rfl
@[simp] theorem StM.run_beginG (l : String) (st : Bool) (s : StState) :
    StM.run (StM.beginG l st) s =
      .done (.ok (Int64.ofNat s.ng)) { s with toks := s.toks ++ [.opn l st], stack := (Int64.ofNat s.ng, s.nw) :: s.stack, ng := s.ng + 1 } := rfl

theorem stCoin_run {fe : FEval} {p : FX} {thr : UInt64} (h : CoinOK fe p thr) (cf : Nat) (s : StState) :
    StM.run (StM.sub (Translated.flipBiasedCoin fe p cf fun b_ => .ret (Enc.enc b_)) : StM Bool) s =
      match s.src.next 53 with
      | none => .fail (.invalid "overrun")
          ({ s with toks := s.toks ++ [.opn coinLabel false, .abort], overran := true } : StState).abortAll
      | some (w, src') => .done (.ok (decide (thr ≤ w)))
          { s with src := src', toks := s.toks ++ [.opn coinLabel false, .w w, .cls false], nw := s.nw + 1 } := by
  have hrun := h.runEq cf _ _ (fun b => RunEq.refl (.ret (Enc.enc b))) s.src s.ts
  show StScript.run (StScript.sub _ _) s = _
  simp only [StScript.run, hrun, coin_run]
  cases hn : s.src.next 53 with
  | none => simp [Out.ofRes, StState.abortAll]
  | some r => simp [Prog.run, Out.ofRes, Out.after, Enc.dec, Enc.enc]

theorem stDraw_run (n : Int64) (s : StState) :
    StM.run (StM.draw n) s =
      match s.src.next (natOfInt n) with
      | none => .fail (.invalid "overrun") ({ s with overran := true } : StState).abortAll
      | some (u, src') => .done (.ok u) { s with src := src', toks := s.toks ++ [.w u], nw := s.nw + 1 } := by
  show StScript.run (StScript.sub _ _) s = _
  simp only [StScript.run, Prog.run]
  cases hn : s.src.next (natOfInt n) with
  | none => simp [Out.ofRes, StState.abortAll]
  | some r => simp [Out.ofRes, Out.after, Enc.dec, Enc.enc]

theorem stEndG_run (i : Int64) (d : Bool) (s : StState) :
    StM.run (StM.endG i d) s =
      match s.stack with
      | [] => .fail (.panic "endGroup without an open group" 9002) s
      | (j, nw0) :: rest =>
        if i != j then .fail (.panic "group closed out of order" 9003) s.abortAll
        else if !d && s.nw == nw0 then .fail (.panic groupAssertMsg siteGroupAssert) s.abortAll
        else .done (.ok ()) { s with toks := s.toks ++ [.cls d], stack := rest } := by
  unfold StM.run StM.endG StScript.run
  rfl

def subT (p : Prog) : StM Val := StScript.sub p (fun v => StScript.ret (.ok v))

def StState.afterSub (s : StState) (o : Out) : StState :=
  { s with src := o.src, ts := o.ts, toks := s.toks ++ o.toks, evs := s.evs ++ o.evs, overran := s.overran || o.overran,
           nw := s.nw + o.used.length }

theorem stSub_run {p : Prog} {s : StState} {o : Out} (ho : p.run s.src s.ts = o) :
    StM.run (subT p) s =
      match o.res with
      | .ok v => .done (.ok v) (s.afterSub o)
      | .error e => .fail e (s.afterSub o).abortAll := by
  subst ho
  unfold StM.run subT StScript.run
  rfl

/-- the receiver state of `repeat` -/
structure RS where
  minCount : Int64
  maxCount : Int64
  pContinue : UInt64
  count : Int64
  group : Int64
  rejected : Bool
  forceStop : Bool
  label : String
  rejections : Int64

def moreT (fe : FEval) (r : RS) (cf : Nat) : StM (Bool × RS) :=
  Translated.repeat_more fe r.minCount r.maxCount r.pContinue r.count r.group r.rejected r.forceStop r.label cf >>= fun t =>
    pure (t.1, { r with minCount := t.2.1, maxCount := t.2.2.1, pContinue := t.2.2.2.1, count := t.2.2.2.2.1,
                        group := t.2.2.2.2.2.1, rejected := t.2.2.2.2.2.2.1, forceStop := t.2.2.2.2.2.2.2.1,
                        label := t.2.2.2.2.2.2.2.2 })

def rejectT (r : RS) : StM RS :=
  match Translated.repeatReject r.count r.forceStop r.minCount r.rejected r.rejections with
  | none => StM.ofM (.error (.invalidData tooManyMsg))
  | some t => pure { r with count := t.1, forceStop := t.2.1, minCount := t.2.2.1, rejected := t.2.2.2.1, rejections := t.2.2.2.2 }

/-- `for r.more(s) { … }` as every collection generator writes it: the body draws an element (`step acc`: the lexically scoped
    program of the model for one element, answering `rRej` or `rAcc acc'`) and calls `r.reject()` when the element is refused -/
def repeatWhile (fe : FEval) (step : Val → Prog) (cf : Nat) : Nat → RS → Val → StM Val
  | 0, _, _ => StM.fuel
  | fuel+1, r, acc =>
    moreT fe r cf >>= fun t =>
      if t.1 then
        subT (step acc) >>= fun res =>
          if res == rRej then rejectT t.2 >>= fun r2 => repeatWhile fe step cf fuel r2 acc
          else match res with
            | .cons .nil acc' => repeatWhile fe step cf fuel t.2 acc'
            | _ => pure acc
      else pure acc

structure Rel (c : RCfg) (pc : UInt64) (r : RS) (st : RSt) : Prop where
  hmin : r.minCount = Int64.ofNat c.minC
  hmax : r.maxCount = Int64.ofNat c.maxC
  hp : r.pContinue = pc
  hcount : r.count = Int64.ofNat st.count
  hforce : r.forceStop = st.force
  hlabel : r.label = c.label ++ repeatSuffix
  hrej : r.rejections = Int64.ofNat st.rejs
  bmin : c.minC < 2 ^ 62
  bmax : c.maxC < 2 ^ 63

/-- at the head of the loop: no group of the loop is open, or the group of the previous element is (it used at least the coin's word) -/
def Pending (r : RS) (s : StState) : Prop :=
  (r.group = Int64.ofNat 0 - 1 ∧ s.stack = []) ∨
  (∃ g nw0, r.group = Int64.ofNat g ∧ g < 2 ^ 62 ∧ s.stack = [(Int64.ofNat g, nw0)] ∧ nw0 < s.nw)

/-- the token the model has written already and the source writes at its next call of `more` -/
def pend (r : RS) : List Tok := if r.group ≥ 0 then [.cls r.rejected] else []

theorem pend_none {r : RS} (h : r.group = Int64.ofNat 0 - 1) : pend r = [] := by
  rw [pend, h, if_neg (of_decide_eq_false i64_negOne_not_nonneg)]

theorem pend_some {r : RS} {g : Nat} (h : r.group = Int64.ofNat g) (hg : g < 2 ^ 62) : pend r = [.cls r.rejected] := by
  rw [pend, h, if_pos (of_decide_eq_true (i64_ofNat_nonneg (Nat.lt_trans hg (by decide))))]

/-- the model's run `o`, continued from what the script had done (`s`, and the pending close `p`) -/
def glue (s : StState) (p : List Tok) (o : Out) : Core :=
  ⟨o.res, o.src, o.ts, s.toks ++ p ++ o.toks, s.evs ++ o.evs, s.overran || o.overran⟩

def StepOK (step : Val → Prog) : Prop :=
  ∀ acc src ts v, ((step acc).run src ts).res = .ok v → v = rRej ∨ ∃ acc', v = rAcc acc'

theorem closePending (r : RS) (s : StState) (h : Pending r s) :
    StM.run ((if decide (r.group ≥ (0 : Int64)) then (StM.endG r.group r.rejected >>= fun _ => pure ()) else pure ()) : StM Unit) s =
      .done (.ok ()) { s with toks := s.toks ++ pend r, stack := [] } := by
  rcases h with ⟨hg, hs⟩ | ⟨g, nw0, hg, hg62, hs, hnw⟩
  · rw [pend_none hg, hg, i64_negOne_not_nonneg, if_neg Bool.false_ne_true, List.append_nil, ← hs]
    rfl
  · rw [pend_some hg hg62, hg, i64_ofNat_nonneg (Nat.lt_trans hg62 (by decide)), if_pos rfl]
    simp [stEndG_run, hs, Nat.ne_of_gt hnw]

def RS.afterMore (r : RS) (s : StState) (cont : Bool) : RS :=
  { r with group := Int64.ofNat s.ng, rejected := false, count := if cont then r.count + 1 else r.count }

/-- when the coin says stop the group of the next element is closed at once; the coin of a forced stop is a group of the script's
    own (`ng + 2`) -/
def StState.afterMore (s : StState) (c : RCfg) (st : RSt) (r : RS) (w : UInt64) (src' : Src) (cont : Bool) : StState :=
  { s with src := src',
           toks := s.toks ++ pend r ++ [.opn r.label true, .opn coinLabel false, .w w, .cls false] ++ (if cont then [] else [.cls false]),
           stack := if cont then [(Int64.ofNat s.ng, s.nw)] else [],
           ng := s.ng + (if coinBits c st = 0 then 2 else 1), nw := s.nw + 1 }

section
variable {c : RCfg} {step : Val → Prog} {fuel : Nat} {st : RSt} {acc : Val} {r : RS} {s : StState} {src' : Src} {w : UInt64} {os : Out}

/-- one iteration of the model's loop whose coin drew `w`, written with the states the script passes through -/
theorem glue_repeatLoop_some (hlabel : r.label = c.label ++ repeatSuffix) (hn : s.src.next (coinBits c st) = some (w, src'))
    (hos : (step acc).run src' s.ts = os) :
    glue s (pend r) ((repeatLoop c step (fun a => .ret a) (fuel + 1) st acc).run s.src s.ts) =
      if coinDecision c st w then
        match os.res with
        | .error e => StRes.core (.fail e ((s.afterMore c st r w src' true).afterSub os).abortAll)
        | .ok v =>
          if v == rRej && tooManyRejections c st then
            StRes.core (.done (.error (.invalidData tooManyMsg)) ((s.afterMore c st r w src' true).afterSub os))
          else glue ((s.afterMore c st r w src' true).afterSub os) [.cls (v == rRej)]
            ((match v with
              | .nil => Prog.ret acc
              | .cons .nil acc' => repeatLoop c step (fun a => .ret a) fuel { st with count := st.count + 1 } acc'
              | _ => repeatLoop c step (fun a => .ret a) fuel { st with rejs := st.rejs + 1, force := st.force || st.rejs + 1 > st.count * 2 } acc).run
              os.src os.ts)
      else StRes.core (.done (.ok acc) (s.afterMore c st r w src' false)) := by
  -- `hbody`: the run of the group's body, case by case; `group_run_error` / `group_run_cont` make it the run of the group
  have hbody := moreCoin_run c st (fun cont =>
      if cont then (step acc) >>- fun r => if r == rRej && tooManyRejections c st then .throw (.invalid tooManyMsg) else .ret r
      else .ret rStop) s.src s.ts
  simp only [hn] at hbody
  rw [repeatLoop, ← hlabel]
  cases hb : coinDecision c st w with
  | false =>
    rw [hb] at hbody
    rw [group_run_cont (v := rStop) (by rw [hbody]; rfl) (Or.inr (by rw [hbody]; exact List.cons_ne_nil _ _)), hbody]
    simp [glue, StRes.core, StState.afterMore, Prog.run, Out.ofRes, Out.after, rStop, rRej, List.append_assoc]
  | true =>
    rw [hb, if_pos rfl, run_bind, hos, Out.andThen] at hbody
    cases hr : os.res with
    | error e =>
      simp only [hr] at hbody
      rw [group_run_error (e := e) (by rw [hbody]; exact hr), hbody]
      simp [glue, StRes.core, StState.abortAll, StState.afterMore, StState.afterSub, Out.after, hr, List.append_assoc]
    | ok v =>
      simp only [hr] at hbody
      by_cases hg : (v == rRej && tooManyRejections c st) = true
      · rw [if_pos hg] at hbody
        rw [group_run_error (e := .invalid tooManyMsg) (by rw [hbody]; rfl), hbody]
        simp [glue, StRes.core, panicErr, StState.abortAll, StState.afterMore, StState.afterSub, Out.after, Prog.run, Out.ofRes, hg,
          List.append_assoc]
      · rw [if_neg hg] at hbody
        rw [group_run_cont (v := v) (by rw [hbody]; rfl) (Or.inr (by rw [hbody]; exact List.cons_ne_nil _ _)), hbody]
        -- `rfl` at the end: the `match` of the statement is a matcher of its own, that of `repeatLoop` only after unfolding
        simp only [hg, glue, StState.afterMore, StState.afterSub, Out.after, Prog.run, Out.ofRes, Bool.false_eq_true, if_false, if_true,
          List.append_nil, List.cons_append, List.nil_append, List.append_assoc, Bool.or_false, Bool.false_or, Bool.or_assoc]
        rfl
end

/-- **one call of the translated `repeat.more`** at the head of the loop: it closes the group of the previous element, opens the next
    one and flips the model's coin — `coinBits` bits from the source, `coinDecision` on the word.  The three probabilities
    `more` can pass to `flipBiasedCoin`, as `float64` bits: `4607182418800017408` = 0x3FF0000000000000 is 1.0 (below
    `minCount`), 0 is 0.0 (`maxCount` reached), `pc` is `pContinue` -/
theorem moreT_run {fe : FEval} {c : RCfg} {pc : UInt64} (cf : Nat)
    (hc1 : CoinOK fe (.ofBits 4607182418800017408) thrAlways) (hc0 : CoinOK fe (.ofBits 0) thrNever) (hcp : CoinOK fe (.ofBits pc) c.thr)
    {r : RS} {st : RSt} {s : StState} (hrel : Rel c pc r st) (hpend : Pending r s) (hcnt : st.count < 2 ^ 63) :
    StM.run (moreT fe r cf) s =
      match s.src.next (coinBits c st) with
      | none => .fail (.invalid "overrun")
          { s with toks := s.toks ++ pend r ++ [.opn r.label true, .opn coinLabel false, .abort, .abort], stack := [], overran := true,
                   ng := s.ng + (if coinBits c st = 0 then 2 else 1) }
      | some (w, src') =>
        .done (.ok (coinDecision c st w, r.afterMore s (coinDecision c st w))) (s.afterMore c st r w src' (coinDecision c st w)) := by
  obtain ⟨hmin, hmax, hp, hcount, hforce, hlabel, hrejs, bmin, bmax⟩ := hrel
  rw [moreT, Translated.repeat_more]
  simp only [StM.run_bind, closePending r s hpend, StRes.bindE_ok, StM.run_beginG]
  have hcl : decide (r.count < r.minCount) = decide (st.count < c.minC) := by
    rw [hcount, hmin]; exact i64_ofNat_lt hcnt (by omega)
  have hcm : decide (r.count ≥ r.minCount) = decide (st.count ≥ c.minC) := by
    rw [hcount, hmin]; exact i64_ofNat_le (by omega) hcnt
  have hcx : decide (r.count ≥ r.maxCount) = decide (st.count ≥ c.maxC) := by
    rw [hcount, hmax]; exact i64_ofNat_le bmax hcnt
  rw [hcl, hcm, hcx, hforce]
  cases hz : st.force && decide (st.count ≥ c.minC) with
  | true =>
    -- a forced stop draws zero bits in a group of its own
    obtain ⟨hf, hge⟩ : st.force = true ∧ st.count ≥ c.minC := by simpa using hz
    have hnl : ¬ st.count < c.minC := by omega
    have h0 : natOfInt (0 : Int64) = 0 := by decide
    simp only [coinBits, coinDecision, hf, hnl, decide_false, Bool.true_or, if_true, if_false,
      Bool.false_eq_true, StM.run_bind, StM.run_pure, StRes.bindE_ok, StM.run_beginG, stDraw_run, h0]
    cases hn : s.src.next 0 with
    | none =>
      -- the rest of the script hands the failure on, by computation: `simp` is kept out of it
      show StRes.fail _ _ = StRes.fail _ _
      simp [StState.abortAll, coinLabel]
    | some nx =>
      obtain ⟨u, src'⟩ := nx
      simp [stEndG_run, RS.afterMore, StState.afterMore, coinBits, hforce, hf, hnl, coinLabel]
  | false =>
    -- otherwise `flipBiasedCoin` with one of three probabilities
    obtain ⟨pb, thr, hok, hpb, hbits, hdec⟩ : ∃ (pb thr : UInt64), CoinOK fe (.ofBits pb) thr ∧
        (∀ s2 : StState, StM.run ((if decide (st.count < c.minC) = true then pure (4607182418800017408 : UInt64)
            else (if (st.force || decide (st.count ≥ c.maxC)) = true then pure (0 : UInt64) else pure r.pContinue) >>= fun pCont => pure pCont) : StM UInt64) s2
          = .done (.ok pb) s2) ∧
        coinBits c st = 53 ∧ ∀ w, coinDecision c st w = decide (thr ≤ w) := by
      by_cases h1 : st.count < c.minC
      · exact ⟨_, _, hc1, by intro s2; simp [h1], by simp [coinBits, h1], by intro w; simp [coinDecision, h1]⟩
      · have hf : st.force = false := by simpa [show st.count ≥ c.minC by omega] using hz
        by_cases h2 : st.count ≥ c.maxC
        · exact ⟨_, _, hc0, by intro s2; simp [h1, h2], by simp [coinBits, h1, hf], by intro w; simp [coinDecision, h1, hf, h2]⟩
        · exact ⟨_, _, hp ▸ hcp, by intro s2; simp [h1, h2, hf], by simp [coinBits, h1, hf], by intro w; simp [coinDecision, h1, hf, h2]⟩
    simp only [hpb, StRes.bindE_ok, Bool.false_eq_true, if_false, StM.run_bind, stCoin_run hok, hbits, hdec]
    cases hn : s.src.next 53 with
    | none => show StRes.fail _ _ = StRes.fail _ _; simp [StState.abortAll]
    | some nx =>
      obtain ⟨w, src'⟩ := nx
      by_cases hb : thr ≤ w <;> simp [hb, hforce, stEndG_run, RS.afterMore, StState.afterMore, hbits]

/-- **one call of the translated `repeat.reject`**, after `more` has counted the element -/
theorem rejectT_run {c : RCfg} {pc : UInt64} {r : RS} {st : RSt} (hrel : Rel c pc r { st with count := st.count + 1 })
    (hcnt : st.count < 2 ^ 60) (hrj : st.rejs < 2 ^ 60) (s : StState) :
    StM.run (rejectT r) s =
      if tooManyRejections c st then .done (.error (.invalidData tooManyMsg)) s
      else .done (.ok { r with count := .ofNat st.count, forceStop := st.force || decide (st.rejs + 1 > st.count * 2), rejected := true,
                               rejections := .ofNat (st.rejs + 1) }) s := by
  rw [rejectT, hrel.hcount, hrel.hforce, hrel.hmin, hrel.hrej, tr_repeatReject st.count st.rejs c.minC st.force r.rejected hcnt hrj hrel.bmin c rfl]
  by_cases h : tooManyRejections c st = true
  · rw [if_pos h, if_pos h]; rfl
  · rw [if_neg h, if_neg h]; rfl

/-- **the loop around the translated `repeat.more` is the model's `repeatLoop`**: same words consumed, same tokens recorded (the
    group of an element closed — with `rejected` — by the next call of `more`), same accumulator, same errors -/
theorem tr_repeatLoop (fe : FEval) (c : RCfg) (pc : UInt64) (step : Val → Prog) (hstep : StepOK step) (cf : Nat)
    (hc1 : CoinOK fe (.ofBits 4607182418800017408) thrAlways) (hc0 : CoinOK fe (.ofBits 0) thrNever) (hcp : CoinOK fe (.ofBits pc) c.thr) :
    ∀ (fuel : Nat) (st : RSt) (acc : Val) (r : RS) (s : StState), Rel c pc r st → Pending r s →
      s.ng + 2 * fuel < 2 ^ 62 → st.count + fuel < 2 ^ 60 → st.rejs + fuel < 2 ^ 60 →
      ((repeatLoop c step (fun a => .ret a) fuel st acc).run s.src s.ts).res = .error .fuel ∨
      (StM.run (repeatWhile fe step cf fuel r acc) s).core =
        glue s (pend r) ((repeatLoop c step (fun a => .ret a) fuel st acc).run s.src s.ts) := by
  intro fuel
  induction fuel with
  | zero => intro st acc r s _ _ _ _ _; left; rfl
  | succ fuel ih =>
    intro st acc r s hrel hpend hng hcnt hrj
    have hc : st.count < 2 ^ 60 := Nat.lt_of_le_of_lt (Nat.le_add_right _ _) hcnt
    have hmore := moreT_run cf hc1 hc0 hcp hrel hpend (Nat.lt_trans hc (by decide))
    show (glue s (pend r) _).res = .error .fuel ∨ _
    rw [repeatWhile]
    cases hn : s.src.next (coinBits c st) with
    | none =>
      rw [hn] at hmore
      rw [StM.run_bind, hmore, StRes.bindE_fail, repeatLoop, group_run_error (e := .invalid "overrun") (by rw [moreCoin_run, hn]; rfl), moreCoin_run, hn,
        ← hrel.hlabel]
      right; simp [StRes.core, glue, Out.ofRes]
    | some nx =>
      obtain ⟨w, src'⟩ := nx
      rw [hn] at hmore
      generalize hos : (step acc).run src' s.ts = os
      rw [StM.run_bind, hmore, StRes.bindE_ok, glue_repeatLoop_some hrel.hlabel hn hos]
      cases hb : coinDecision c st w with
      | false =>
        rw [if_neg Bool.false_ne_true, if_neg Bool.false_ne_true]
        exact .inr rfl
      | true =>
        rw [if_pos rfl, if_pos rfl]
        have hsub := stSub_run (s := s.afterMore c st r w src' true) hos
        cases hr : os.res with
        | error e =>
          rw [hr] at hsub
          rw [StM.run_bind, hsub, StRes.bindE_fail]
          exact .inr rfl
        | ok v =>
          rw [hr] at hsub
          rw [StM.run_bind, hsub, StRes.bindE_ok]
          dsimp only
          have hng62 : s.ng < 2 ^ 62 := Nat.lt_of_le_of_lt (Nat.le_add_right _ _) hng
          -- the loop goes on from here, whatever the element did to the receiver: its group is open and holds the coin's word
          have key : ∀ (st' : RSt) (acc' : Val) (r' : RS), Rel c pc r' st' → r'.group = Int64.ofNat s.ng →
              st'.count + fuel < 2 ^ 60 → st'.rejs + fuel < 2 ^ 60 →
              ((repeatLoop c step (fun a => .ret a) fuel st' acc').run os.src os.ts).res = .error .fuel ∨
              (StM.run (repeatWhile fe step cf fuel r' acc') ((s.afterMore c st r w src' true).afterSub os)).core =
                glue ((s.afterMore c st r w src' true).afterSub os) [.cls r'.rejected]
                  ((repeatLoop c step (fun a => .ret a) fuel st' acc').run os.src os.ts) := by
            intro st' acc' r' hrel' hg' h1 h2
            rw [← pend_some hg' hng62]
            exact ih st' acc' r' ((s.afterMore c st r w src' true).afterSub os) hrel'
              (Or.inr ⟨s.ng, s.nw, hg', hng62, rfl, Nat.lt_of_lt_of_le (Nat.lt_succ_self _) (Nat.le_add_right _ _)⟩)
              (by show s.ng + (if coinBits c st = 0 then 2 else 1) + 2 * fuel < 2 ^ 62; split <;> omega) h1 h2
          have hrel1 : Rel c pc (r.afterMore s true) ⟨st.count + 1, st.rejs, st.force⟩ :=
            { hrel with hcount := by simp only [RS.afterMore, if_true, hrel.hcount, i64_ofNat_succ] }
          rcases hstep acc src' s.ts v (by rw [hos]; exact hr) with rfl | ⟨acc', rfl⟩
          · have hrej := rejectT_run hrel1 hc (Nat.lt_of_le_of_lt (Nat.le_add_right _ _) hrj) ((s.afterMore c st r w src' true).afterSub os)
            rw [if_pos (beq_self_eq_true rRej)]
            by_cases htm : tooManyRejections c st = true
            · rw [if_pos htm] at hrej
              rw [StM.run_bind, hrej, if_pos (by simp [htm])]
              exact .inr rfl
            · rw [if_neg htm] at hrej
              rw [StM.run_bind, hrej, StRes.bindE_ok, if_neg (by simp [htm])]
              exact key ⟨st.count, st.rejs + 1, st.force || decide (st.rejs + 1 > st.count * 2)⟩ acc _
                { hrel with hcount := rfl, hforce := rfl, hrej := rfl } rfl (Nat.lt_of_succ_lt hcnt) (by rw [Nat.add_right_comm]; exact hrj)
          · rw [if_neg (by simp [rAcc, rRej]), if_neg (by simp [rAcc, rRej])]
            exact key ⟨st.count + 1, st.rejs, st.force⟩ acc' (r.afterMore s true) hrel1 rfl
              (by rw [Nat.add_right_comm]; exact hcnt) (Nat.lt_of_succ_lt hrj)

/-- `newRepeat`: no group of the loop is open yet (`group: -1`), nothing counted -/
def RS.fresh (c : RCfg) (pc : UInt64) : RS :=
  ⟨Int64.ofNat c.minC, Int64.ofNat c.maxC, pc, Int64.ofNat 0, Int64.ofNat 0 - 1, false, false, c.label ++ repeatSuffix, Int64.ofNat 0⟩

def StState.fresh (src : Src) (ts : TS) : StState := ⟨src, ts, [], [], false, [], 0, 0⟩

/-- **`for r.more(s) { … }` around the translated `repeat.more` and `repeat.reject`, from `newRepeat` on, is the model's
    `repeatLoop`** — for every body, every source of words and every `fuel < 2^59` (the only way the two can differ is the model
    running out of fuel, which the deadline of a run stands for): result, rest of the source, tokens recorded (so: groups,
    `discard` flags, the zero-bit coin of a forced stop), events and the overrun flag are the same -/
theorem tr_repeat (fe : FEval) (ft : FT) (HB : FloatFactsBits fe ft) (c : RCfg) (pc : UInt64) (hcp : CoinOK fe (.ofBits pc) c.thr)
    (hmin : c.minC < 2 ^ 62) (hmax : c.maxC < 2 ^ 63) (step : Val → Prog) (hstep : StepOK step) (cf fuel : Nat) (hfuel : fuel < 2 ^ 59)
    (acc : Val) (src : Src) (ts : TS) :
    ((repeatLoop c step (fun a => .ret a) fuel {} acc).run src ts).res = .error .fuel ∨
    (StM.run (repeatWhile fe step cf fuel (RS.fresh c pc) acc) (StState.fresh src ts)).core =
      outCore ((repeatLoop c step (fun a => .ret a) fuel {} acc).run src ts) := by
  have h60 : 0 + fuel < 2 ^ 60 := by omega
  refine (tr_repeatLoop fe c pc step hstep cf HB.coinOK1 HB.coinOK0 hcp fuel {} acc (RS.fresh c pc)
    (StState.fresh src ts) ⟨rfl, rfl, rfl, rfl, rfl, rfl, rfl, hmin, hmax⟩ (Or.inl ⟨rfl, rfl⟩)
    (by show 0 + 2 * fuel < 2 ^ 62; omega) h60 h60).imp_right fun h => ?_
  rw [h]
  simp [glue, outCore, pend_none (r := RS.fresh c pc) rfl, StState.fresh]

end Rapid.Go
