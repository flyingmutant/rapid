/-
  RapidProofs.Replay — L-replay / L-prefix: running a program on exactly the words it
  recorded, followed by anything, reproduces the run (same result, same T, same recording,
  same events) and leaves the "anything" unconsumed.
-/
import RapidModel.Prog
import RapidProofs.U64

namespace Rapid

theorem next_masked {s s' : Src} {n : Nat} {u : UInt64} (h : s.next n = some (u, s')) : mask n u = u := by
  unfold Src.next at h
  split at h
  · cases h
  · cases h; exact mask_idem n _
  · split at h <;> cases h
    · exact mask_idem n _
    · rename_i hn
      simp [mask, bitmask64_of_ge (by omega : n ≥ 64)]

theorem next_buf (w : UInt64) (ws : List UInt64) (n : Nat) : (Src.buf (w :: ws)).next n = some (mask n w, .buf ws) := rfl

theorem buf_next_cons {n : Nat} {u : UInt64} (hm : mask n u = u) (rest : List UInt64) :
    (Src.buf (u :: rest)).next n = some (u, .buf rest) := by
  rw [next_buf, hm]

@[simp] theorem after_src (o : Out) (u k : List UInt64) (t : List Tok) (e : List Ev) (ov : Bool) (s : Src) :
    { o.after u k t e ov with src := s } = ({ o with src := s } : Out).after u k t e ov := rfl

@[simp] theorem after_used (o : Out) (u k : List UInt64) (t : List Tok) (e : List Ev) (ov : Bool) :
    (o.after u k t e ov).used = u ++ o.used := rfl
@[simp] theorem after_kept (o : Out) (u k : List UInt64) (t : List Tok) (e : List Ev) (ov : Bool) :
    (o.after u k t e ov).kept = k ++ o.kept := rfl
@[simp] theorem after_toks (o : Out) (u k : List UInt64) (t : List Tok) (e : List Ev) (ov : Bool) :
    (o.after u k t e ov).toks = t ++ o.toks := rfl
@[simp] theorem after_evs (o : Out) (u k : List UInt64) (t : List Tok) (e : List Ev) (ov : Bool) :
    (o.after u k t e ov).evs = e ++ o.evs := rfl
@[simp] theorem after_res (o : Out) (u k : List UInt64) (t : List Tok) (e : List Ev) (ov : Bool) :
    (o.after u k t e ov).res = o.res := rfl
@[simp] theorem after_ts (o : Out) (u k : List UInt64) (t : List Tok) (e : List Ev) (ov : Bool) :
    (o.after u k t e ov).ts = o.ts := rfl
@[simp] theorem after_srcproj (o : Out) (u k : List UInt64) (t : List Tok) (e : List Ev) (ov : Bool) :
    (o.after u k t e ov).src = o.src := rfl
@[simp] theorem after_overran (o : Out) (u k : List UInt64) (t : List Tok) (e : List Ev) (ov : Bool) :
    (o.after u k t e ov).overran = (ov || o.overran) := rfl

theorem after_nil (o : Out) : o.after [] [] [] [] false = o := rfl

theorem after_after (o : Out) (u1 k1 u2 k2 : List UInt64) (t1 t2 : List Tok) (e1 e2 : List Ev) (ov1 ov2 : Bool) :
    (o.after u1 k1 t1 e1 ov1).after u2 k2 t2 e2 ov2 = o.after (u2 ++ u1) (k2 ++ k1) (t2 ++ t1) (e2 ++ e1) (ov2 || ov1) := by
  simp [Out.after, List.append_assoc, Bool.or_assoc]

theorem after_after0 (o : Out) (u1 k1 u2 k2 : List UInt64) (t1 t2 : List Tok) (ov1 ov2 : Bool) :
    (o.after u1 k1 t1 [] ov1).after u2 k2 t2 [] ov2 = o.after (u2 ++ u1) (k2 ++ k1) (t2 ++ t1) [] (ov2 || ov1) := by
  rw [after_after]; rfl

def Replays (p : Prog) : Prop :=
  ∀ (src : Src) (ts : TS) (xs : List UInt64), (p.run src ts).overran = false →
    p.run (.buf ((p.run src ts).used ++ xs)) ts = { p.run src ts with src := .buf xs }

/- The cases of `fun_induction Prog.run`, in the order of the definition: 1 `ret`, 2 `throw`; `draw`: 3 overrun, 4 a word;
   `group`: 5 the body raised, 6 it kept nothing and used no data, 7 it was closed; `catchInv`: 8 the body returned, 9 it raised
   invalid data, 10 it raised anything else; 11 `errorf`; `failOnError`: 12 after a failure, 13 without one; 14 `tick`;
   15 `cleanup`; `ctx`: 16 the context exists, 17 it is created; `inner`: 18 a cleanup callback raised, 19 the function raised,
   20 it returned; 21 `emit`. -/

/-- **L-replay**: every program replays from its own recording.  By induction along the first run, so that only the second
    is unfolded, once per branch: its body ends as in the first run (hypothesis, with the continuation's words and `xs` left
    over), so it takes the same branch. -/
theorem run_replay (p : Prog) : Replays p := by
  intro src ts xs h
  fun_induction Prog.run p src ts generalizing xs
  case case1 | case2 => rfl
  case case3 => cases h
  case case4 u _ hn ih =>
    simp only [Prog.run, after_used, List.cons_append, List.nil_append, buf_next_cons (next_masked hn), ih xs h]
    rfl
  -- the hypotheses speak of `b.run src ts`, the goal and `he` of its local name `o`: spelt out first.  In case 10 the last
  -- equation of the match asks that the error is not invalid data: simp finds that in the context
  case case5 o _ he ih | case10 o _ _ he ih => simp only [o] at he ⊢; simp only [Prog.run, ih xs h, he]
  case case6 o _ he hc ih => simp only [o] at he hc ⊢; simp only [Prog.run, ih xs h, he, hc, if_true]
  case case7 o _ he hc ihb ihk =>
    obtain ⟨h1, h2⟩ := Bool.or_eq_false_iff.mp h
    simp only [o] at he hc h2 ihk ⊢
    simp only [Prog.run, after_used, List.append_assoc, ihb _ h1, he, hc, ihk xs h2]
    rfl
  case case8 o _ he ihb ihk | case9 o _ he ihb ihk =>
    obtain ⟨h1, h2⟩ := Bool.or_eq_false_iff.mp h
    simp only [o] at he h2 ihk ⊢
    simp only [Prog.run, after_used, List.append_assoc, ihb _ h1, he, ihk xs h2]
    rfl
  case case11 ih | case21 ih => simp only [Prog.run, after_used, List.nil_append, ih xs h]; rfl
  case case12 hf => rw [Prog.run, hf]; rfl
  case case13 hf ih => rw [Prog.run, hf]; exact ih xs h
  case case14 ih | case15 ih => exact ih xs h
  case case16 hc ih | case17 hc ih => simp only [Prog.run, hc, after_used, List.nil_append, ih xs h]; rfl
  case case18 o c _ _ _ _ hc ih => simp only [o, c] at hc ⊢; simp only [Prog.run, ih xs h, hc]; rfl
  case case19 o c _ _ _ hc _ he ih => simp only [o, c] at hc he ⊢; simp only [Prog.run, ih xs h, hc, he]; rfl
  case case20 o c failed ts' evs hc _ he ihb ihk =>
    obtain ⟨h1, h2⟩ := Bool.or_eq_false_iff.mp h
    simp only [o, c, failed, ts', evs] at hc he h2 ihk ⊢
    simp only [Prog.run, after_used, List.append_assoc, ihb _ h1, hc, he, ihk xs h2]
    rfl

end Rapid
