/-
  C14 — T's non-drawing methods are safe to call from many goroutines.

  (1) `lockset_sound`: any number of threads running well-locked traces over one RWMutex never
      reach a racy configuration, for every interleaving the mutex allows.
  (2) the traces of the real methods — extracted from /repo's source on every run
      (Generated/LockTraces.lean: every path through Log/Logf/Error/Errorf/Fatal*/Fail*/Failed/
      Context/Cleanup/cleanup/fail/failOnError/Skip*) — are well-locked (`decide`).
  (3) each critical section being atomic, the shared state evolves by a sequence of atomic
      operations: no failure is lost, every cleanup is registered exactly once, every
      `Context()` call returns the same context.
  Trusted (A-runtime): Go's memory model for `sync.RWMutex` / `atomic.Bool`, and that nothing
  but the extracted methods touches these fields concurrently.
-/
import RapidProofs.Lockset
import RapidModel.Generated.LockTraces

namespace Rapid.C14
open Rapid.Conc

/-- (1) -/
theorem no_race_under_any_interleaving (c₀ : Cfg) (h0 : ∀ i, c₀.held i = none)
    (hwl : ∀ i, WLF none (c₀.rest i) = true) {c : Cfg} (hr : Reach c₀ c) : ¬ Race c :=
  lockset_sound c₀ h0 hwl hr

/-- (2) every extracted path of every non-drawing method of `*T` respects the discipline -/
theorem traces_well_locked : ∀ t ∈ Rapid.Generated.tTraces, WLF none t.2 = true := by decide +kernel

/-- position-independent lookup of a field id by its name in the generated table -/
def fieldId (name : String) : Option Nat :=
  (Rapid.Generated.fieldNames.find? (·.2 == name)).map (·.1)

/-- inside one write section: every write of field `f` is preceded by a read of `f` in the
    same section (check-then-act happens atomically) -/
def checkedWrites (f : Nat) : Bool → Bool → List Ev → Bool
  | _, _, [] => true
  | _, _, .acq .W :: es => checkedWrites f true false es
  | _, _, .acq .R :: es => checkedWrites f false false es
  | _, _, .rel _ :: es => checkedWrites f false false es
  | inW, seen, .read g :: es => checkedWrites f inW (seen || (inW && g == f)) es
  | inW, seen, .write g :: es => (g != f || (inW && seen)) && checkedWrites f inW seen es

/-- `T.Context` creates the context only after re-checking, under the write lock, that no other
    goroutine has created one meanwhile: no two goroutines can each install a context -/
theorem context_created_once :
    ∀ t ∈ Rapid.Generated.tTraces, t.1 = "T.Context" →
      ∀ f, fieldId "T.ctx" = some f → checkedWrites f false false t.2 = true := by decide +kernel

/-- the extractor understood every statement of these methods -/
theorem extractor_complete : Rapid.Generated.extractorProblems = [] := rfl

/-- (1)+(2): goroutines calling these methods any number of times in any order, concurrently:
    no reachable configuration has two goroutines about to access the same field with one of
    them writing -/
theorem methods_race_free (calls : Nat → List (List Ev))
    (hc : ∀ i, ∀ t ∈ calls i, ∃ m, (m, t) ∈ Rapid.Generated.tTraces) {c : Cfg}
    (hr : Reach ⟨fun i => (calls i).flatten, fun _ => none⟩ c) : ¬ Race c :=
  calls_race_free traces_well_locked calls hc hr

/-! (3) atomic-step semantics of the shared state -/

inductive Op | fail (m : String) | cleanup (id : Nat) | context | failed
deriving DecidableEq

structure Sh where
  failed : Option String := none
  cleanups : List Nat := []
  ctx : Option Nat := none
  created : Nat := 0
  seen : List Nat := []     -- contexts returned by Context() calls so far

def step (s : Sh) : Op → Sh
  | .fail m => { s with failed := some m }
  | .cleanup id => { s with cleanups := id :: s.cleanups }
  | .context => match s.ctx with
      | some c => { s with seen := c :: s.seen }
      | none => { s with ctx := some s.created, created := s.created + 1, seen := s.created :: s.seen }
  | .failed => s

def runOps (s : Sh) (ops : List Op) : Sh := ops.foldl step s

/-- a failure signalled by any goroutine at any point is seen at the end (`failOnError`) -/
theorem failure_not_lost : ∀ (ops : List Op) (s : Sh), (s.failed.isSome ∨ ∃ m, Op.fail m ∈ ops) → (runOps s ops).failed.isSome := by
  intro ops
  induction ops with
  | nil => exact fun s h => h.resolve_right (by simp)
  | cons o os ih =>
    intro s h
    -- `runOps s (o :: os)` is `runOps (step s o) os` by `rfl`: what is left is a fact about one step (so in the next two proofs)
    refine ih (step s o) ?_
    rcases h with h | ⟨m, hm⟩
    · -- no step clears `failed`
      left
      cases o with
      | fail m => rfl
      | context => simp only [step]; split <;> exact h
      | _ => exact h
    · rcases List.mem_cons.mp hm with rfl | hm
      · exact .inl rfl
      · exact .inr ⟨m, hm⟩

/-- every registration is on the stack exactly once, latest first — no lost update -/
theorem cleanups_all_registered : ∀ (ops : List Op) (s : Sh),
    (runOps s ops).cleanups = (ops.filterMap fun o => match o with | .cleanup id => some id | _ => none).reverse ++ s.cleanups := by
  intro ops
  induction ops with
  | nil => intro s; rfl
  | cons o os ih =>
    intro s
    refine (ih (step s o)).trans ?_
    cases o with
    | cleanup id => simp [step]
    | context => simp only [step]; split <;> rfl
    | _ => rfl

/-- all `Context()` calls return one and the same context -/
theorem one_context : ∀ (ops : List Op) (s : Sh), (∀ c ∈ s.seen, s.ctx = some c) →
    ∀ c ∈ (runOps s ops).seen, (runOps s ops).ctx = some c := by
  intro ops
  induction ops with
  | nil => exact fun s h => h
  | cons o os ih =>
    intro s h
    refine ih (step s o) ?_
    cases o with
    | context =>
      -- the call returns the context there is, or the one it creates; in the second case nothing was returned before
      cases hc : s.ctx with
      | some c0 =>
        simp only [step, hc, List.mem_cons]
        rintro c (rfl | hm)
        · rfl
        · exact hc ▸ h c hm
      | none =>
        simp only [step, hc, List.mem_cons]
        rintro c (rfl | hm)
        · rfl
        · cases hc ▸ h c hm
    | _ => exact h

example : WLF none [.acq .W, .write 0, .rel .W] = true ∧ WLF none [.read 0] = false := by decide

end Rapid.C14
