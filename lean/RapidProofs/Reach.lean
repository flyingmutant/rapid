/-
  RapidProofs.Reach — reachability: every value a range allows is produced by some bit stream.
  `genUintNBiased` reaches `u ≤ max` with two words: a bias word that selects the bit length of
  `max` (it exists when the geometric table of that bit length has distinct break points —
  checked over the measured tables in the property file) and `u` itself.
-/
import RapidProofs.Fragment

namespace Rapid

theorem mask_len64_of_le {u max : UInt64} (h : u ≤ max) : mask (len64 max) u = u :=
  mask_of_lt _ u (Nat.lt_of_lt_of_le (lt_two_pow_len64 u) (Nat.pow_le_pow_right (by omega) (len64_mono h)))

theorem mask53_of_lt {w : UInt64} (hw : w < thrNever) : mask 53 w = w :=
  mask_of_lt 53 w (UInt64.lt_iff_toNat_lt.mp hw)

theorem overflowAt_ge (b : Nat) : 32 ≤ overflowAt b := by
  unfold overflowAt biasM; omega

/-- **`genUintNBiased` on the two words `[w, u]`**: `w` is a bias word whose geometric draw `n` selects the bit length
    of `max`; every `u ≤ max` fits it and is handed on, with the overflow flags the code computes -/
theorem uintBiased_run (ft : FT) (max u w : UInt64) (n : Nat) (hu : u ≤ max) (hw : w < thrNever)
    (hg : geomN (ft.geom (len64 max)) w = n) (hb : biasedBitlen (len64 max) n = len64 max)
    (fuel : Nat) (k : UInt64 → Bool → Bool → Prog) (rest : List UInt64) (ts : TS) :
    ∃ toks, (uintBiased ft max (fuel + 1) k).run (.buf (w :: u :: rest)) ts =
      ((k u (u == 0 && n == 1) (u == max && decide (len64 max ≥ n))).run (.buf rest) ts).after
        [w, u] [w, u] toks [] false := by
  simp only [uintBiased, run_draw_group, next_buf, mask53_of_lt hw, hg, Int.toNat_natCast, hb, uintBiasedLoop_step,
    mask_len64_of_le hu, Nat.not_lt.mpr (len64_le_64 max), false_or, if_false, hu, if_true, after_after0]
  exact ⟨_, rfl⟩

/-- a bias word whose geometric draw is `n`: the `(n-1)`-th break point (0 for `n = 1`) -/
def geomWitness (tbl : List UInt64) (n : Nat) : UInt64 := if n ≤ 1 then 0 else tbl.getD (n - 2) 0

/-- every draw `1 … max b 1` of the geometric distribution of bit length `b` is hit by a 53-bit word -/
def tableReach (tbl : List UInt64) (b : Nat) : Bool :=
  (List.range (Nat.max b 1)).all fun i =>
    geomN tbl (geomWitness tbl (i + 1)) == i + 1 && decide (geomWitness tbl (i + 1) < thrNever)

def allReach (ft : FT) : Bool := (List.range 65).all fun b => tableReach (ft.geom b) b

theorem allReach_spec (ft : FT) (h : allReach ft = true) (b n : Nat) (hb : b ≤ 64) (h1 : 1 ≤ n) (hn : n ≤ max b 1) :
    ∃ w, w < thrNever ∧ geomN (ft.geom b) w = n := by
  simp only [allReach, tableReach, List.all_eq_true, List.mem_range, Bool.and_eq_true, beq_iff_eq, decide_eq_true_eq] at h
  have := h b (Nat.lt_succ_of_le hb) (n - 1) (Nat.lt_of_lt_of_le (Nat.sub_lt h1 Nat.one_pos) hn)
  rw [Nat.sub_add_cancel h1] at this
  exact ⟨_, this.2, this.1⟩

def ascBetween (lo hi : UInt64) : List UInt64 → Bool
  | [] => lo < hi
  | a :: t => lo < a && ascBetween a hi t

theorem ascBetween_spec {hi : UInt64} : ∀ {tbl : List UInt64} {lo : UInt64}, ascBetween lo hi tbl = true →
    lo < hi ∧ (∀ x ∈ tbl, lo < x) ∧
    ∀ j (hj : j < tbl.length), tbl[j] < hi ∧ (tbl.filter (· ≤ tbl[j])).length = j + 1
  | [], lo, h => ⟨by simpa [ascBetween] using h, nofun, nofun⟩
  | a :: t, lo, h => by
    simp only [ascBetween, Bool.and_eq_true, decide_eq_true_eq] at h
    obtain ⟨hahi, hgt, ihj⟩ := ascBetween_spec h.2
    refine ⟨UInt64.lt_trans h.1 hahi, ?_, fun j hj => ?_⟩
    · intro x hx
      rcases List.mem_cons.mp hx with rfl | hx
      · exact h.1
      · exact UInt64.lt_trans h.1 (hgt x hx)
    · cases j with
      | zero =>
        have : t.filter (· ≤ a) = [] := List.filter_eq_nil_iff.mpr fun x hx => by simpa using hgt x hx
        simp [hahi, this]
      | succ j =>
        have hj' : j < t.length := Nat.lt_of_succ_lt_succ hj
        simp [ihj j hj', UInt64.le_of_lt (hgt t[j] (List.getElem_mem hj'))]

/-- the table condition that evaluation checks: the break points are positive 53-bit words in strictly
    ascending order, so the `(n-1)`-th of them is a bias word for the draw `n` -/
theorem geomN_witness {tbl : List UInt64} (h : ascBetween 0 thrNever tbl = true) {n : Nat} (h1 : 1 ≤ n)
    (hn : n ≤ tbl.length + 1) : geomN tbl (geomWitness tbl n) = n ∧ geomWitness tbl n < thrNever := by
  obtain ⟨h0, hpos, hj⟩ := ascBetween_spec h
  unfold geomWitness geomN
  split
  · have : tbl.filter (· ≤ 0) = [] :=
      List.filter_eq_nil_iff.mpr fun x hx => by simpa using UInt64.pos_iff_ne_zero.mp (hpos x hx)
    exact ⟨by rw [this, List.length_nil]; omega, h0⟩
  · have hlt : n - 2 < tbl.length := by omega
    rw [List.getD_eq_getElem?_getD, List.getElem?_eq_getElem hlt, Option.getD_some]
    exact ⟨by rw [(hj _ hlt).2]; omega, (hj _ hlt).1⟩

/-- what evaluation checks of the table for bit length `b`: more than `b` and at most 65 break points (`genGeom`'s value is
    capped at 65), positive 53-bit words in strictly ascending order -/
def tableOK (tbl : List UInt64) (b : Nat) : Bool := ascBetween 0 thrNever tbl && decide (b < tbl.length ∧ tbl.length ≤ 65)

def tablesOK (ft : FT) : Bool := (List.range 65).all fun b => tableOK (ft.geom b) b

theorem tablesOK_spec {ft : FT} (h : tablesOK ft = true) {b : Nat} (hb : b ≤ 64) :
    ascBetween 0 thrNever (ft.geom b) = true ∧ b < (ft.geom b).length ∧ (ft.geom b).length ≤ 65 := by
  simp only [tablesOK, tableOK, List.all_eq_true, List.mem_range, Bool.and_eq_true, decide_eq_true_eq] at h
  exact h b (Nat.lt_succ_of_le hb)

theorem allReach_of_tablesOK (ft : FT) (h : tablesOK ft = true) : allReach ft = true := by
  simp only [allReach, tableReach, List.all_eq_true, List.mem_range, Bool.and_eq_true, beq_iff_eq, decide_eq_true_eq]
  intro b hb i hi
  obtain ⟨hasc, hlen, _⟩ := tablesOK_spec h (Nat.le_of_lt_succ hb)
  exact geomN_witness hasc (Nat.succ_pos i)
    (Nat.le_succ_of_le (Nat.lt_of_lt_of_le hi (Nat.max_le.mpr ⟨Nat.le_of_lt hlen, Nat.zero_lt_of_lt hlen⟩)))

/-- **every value of `[0, max]` is reachable** by `genUintNBiased`, given the table condition: from the two words
    `[w, u]`, where `w` is a bias word that makes the geometric draw the bit length of `max` (1 when that is 0) -/
theorem uintBiased_reaches_all (ft : FT) (hft : allReach ft = true) (max u : UInt64) (hu : u ≤ max) (fuel : Nat) :
    ∃ w : UInt64, ∀ (k : UInt64 → Bool → Bool → Prog) (rest : List UInt64) (ts : TS),
      ∃ l r toks, (uintBiased ft max (fuel + 1) k).run (.buf (w :: u :: rest)) ts =
        ((k u l r).run (.buf rest) ts).after [w, u] [w, u] toks [] false := by
  obtain ⟨w, hw, hg⟩ := allReach_spec ft hft (len64 max) _ (len64_le_64 max) (Nat.le_max_right _ 1) (Nat.le_refl _)
  generalize hn : Max.max (len64 max) 1 = n at hg
  have hovf := overflowAt_ge (len64 max)
  have hbl : biasedBitlen (len64 max) n = len64 max := by rw [biasedBitlen, if_neg (by omega), if_neg (by omega)]
  exact ⟨w, fun k rest ts => ⟨_, _, uintBiased_run ft max u w n hu hw hg hbl fuel k rest ts⟩⟩

theorem uintRange_reaches_all (ft : FT) (hft : allReach ft = true) (min max v : UInt64) (h1 : min ≤ v) (h2 : v ≤ max)
    (fuel : Nat) :
    ∃ w : UInt64, ∀ (k : UInt64 → Bool → Bool → Prog) (rest : List UInt64) (ts : TS),
      ∃ l r toks, (uintRange ft min max true (fuel + 1) k).run (.buf (w :: (v - min) :: rest)) ts =
        ((k v l r).run (.buf rest) ts).after [w, v - min] [w, v - min] toks [] false := by
  obtain ⟨w, hw⟩ := uintBiased_reaches_all ft hft (max - min) (v - min) (u64_sub_le_sub h1 h2) fuel
  refine ⟨w, fun k rest ts => ?_⟩
  simp only [uintRange, UInt64.not_lt.mpr (UInt64.le_trans h1 h2), if_false, uintN, if_true]
  obtain ⟨l, r, toks, h⟩ := hw (fun u l r => k (min + u) l r) rest ts
  rw [u64_add_sub] at h
  exact ⟨l, r, toks, h⟩

end Rapid
