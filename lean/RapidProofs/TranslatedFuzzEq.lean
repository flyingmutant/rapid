/-
  RapidProofs.TranslatedFuzzEq — the statements of `checkFuzz` (engine.go) that turn the bytes of a fuzz
  input into the words of the bit stream, as translated from /repo on every run
  (RapidModel/Generated/Translated.lean: `checkFuzz_words`), compute the model's `wordsOfBytes`:
  eight bytes per word, least significant first, the last word padded with zero bytes.
-/
import RapidModel.Generated.Translated
import RapidProofs.GoLemmas

namespace Rapid

open Rapid.Go

theorem wordOfBytes_flat (b0 b1 b2 b3 b4 b5 b6 b7 : UInt8) :
    wordOfBytes [b0, b1, b2, b3, b4, b5, b6, b7] =
      b0.toUInt64 ||| (b1.toUInt64 <<< 8) ||| (b2.toUInt64 <<< 16) ||| (b3.toUInt64 <<< 24) |||
        (b4.toUInt64 <<< 32) ||| (b5.toUInt64 <<< 40) ||| (b6.toUInt64 <<< 48) ||| (b7.toUInt64 <<< 56) := by
  simp (disch := decide) only [wordOfBytes, UInt64.shiftLeft_or, UInt64.zero_shiftLeft, UInt64.or_zero,
    ← UInt64.shiftLeft_add_of_toNat_lt, UInt64.reduceAdd, UInt64.or_assoc]

theorem wordOfBytes_append_zeros (l : List UInt8) (k : Nat) :
    wordOfBytes (l ++ List.replicate k 0) = wordOfBytes l := by
  induction l with
  | nil =>
    induction k with
    | zero => rfl
    | succ k ih =>
      simp only [List.nil_append] at ih
      simp [List.replicate_succ, wordOfBytes, ih]
  | cons b l ih => simp [wordOfBytes, ih]

theorem leU64_eq (l : List UInt8) (h : l.length = 8) : leU64 l = .ok (wordOfBytes l) := by
  iterate 8
    obtain ⟨_, l, rfl⟩ := List.exists_cons_of_length_eq_add_one h
    replace h := Nat.succ.inj h
  rw [List.eq_nil_of_length_eq_zero h, wordOfBytes_flat]
  rfl

theorem copyInto_zeros (input : List UInt8) :
    copyInto (List.replicate 8 (0 : UInt8)) input =
      (input.take 8 ++ List.replicate (8 - min 8 input.length) 0, Int64.ofNat (min 8 input.length)) := by
  simp only [copyInto, List.length_replicate, ← List.take_eq_take_min, List.drop_replicate]

theorem tr_checkFuzz_loop : ∀ (fuel : Nat) (buf : List UInt64) (input : List UInt8),
    input.length < 2 ^ 63 → input.length < fuel →
      Translated.checkFuzz_words_loop1 fuel buf input = .ok (buf ++ wordsOfBytes input, []) := by
  intro fuel buf input
  refine fuel_loop (fun fuel (s : List UInt64 × List UInt8) => Translated.checkFuzz_words_loop1 fuel s.1 s.2)
    (fun s r => r = .ok (s.1 ++ wordsOfBytes s.2, [])) (fun s => s.2.length < 2 ^ 63) (fun s => s.2.length) ?_ fuel (buf, input)
  rintro fuel ⟨buf, input⟩ (hsz : input.length < 2 ^ 63)
  show Translated.checkFuzz_words_loop1 (fuel + 1) buf input = _ ∨ _
  have hpos : decide (glen input > (0 : Int64)) = decide (0 < input.length) := i64_ofNat_pos hsz
  rw [Translated.checkFuzz_words_loop1, hpos]
  by_cases hne : input = []
  · subst hne
    exact Or.inl (by simp [wordsOfBytes])
  · have hlen : 0 < input.length := List.length_pos_iff.mpr hne
    have hm : min 8 input.length < 2 ^ 63 := Nat.lt_of_le_of_lt (Nat.min_le_left ..) (by decide)
    have hl : (input.take 8 ++ List.replicate (8 - min 8 input.length) (0 : UInt8)).length = 8 := by
      rw [List.length_append, List.length_take, List.length_replicate, Nat.add_sub_cancel' (Nat.min_le_left ..)]
    refine Or.inr ⟨(buf ++ [wordOfBytes (input.take 8)], input.drop 8), ?_, ?_, ?_, ?_⟩
    · simp only [hlen, decide_true, if_true, copyInto_zeros, leU64_eq _ hl, wordOfBytes_append_zeros, M.ok_bind,
        sliceFrom_ofNat _ hm, Nat.min_le_right, ← List.drop_eq_drop_min]
    · show (input.drop 8).length < 2 ^ 63
      rw [List.length_drop]
      exact Nat.lt_of_le_of_lt (Nat.sub_le ..) hsz
    · show (input.drop 8).length < input.length
      rw [List.length_drop]
      exact Nat.sub_lt hlen (by decide)
    · rintro r rfl
      rw [wordsOfBytes.eq_def input, dif_neg hne, List.append_assoc, List.singleton_append]

/-- **the source's byte-to-word conversion is the model's `wordsOfBytes`**, for every input (shorter than
    2^63 bytes, as every Go slice is) and enough fuel -/
theorem tr_checkFuzz_words (input : List UInt8) (fuel : Nat) (hsz : input.length < 2 ^ 63) (hf : input.length < fuel) :
    Translated.checkFuzz_words input fuel = .ok (wordsOfBytes input) := by
  simp [Translated.checkFuzz_words, tr_checkFuzz_loop fuel [] input hsz hf, bind, Except.bind, pure, Except.pure]

end Rapid
