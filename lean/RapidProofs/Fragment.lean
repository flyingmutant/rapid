/-
  RapidProofs.Fragment — fragments of generators in continuation-passing style, `p : (α → Prog) → Prog`: the range
  contract `Yields` and reachability of a value `ReachesVal`, and the runs of the building blocks of generators written
  out as equations: a group outcome by outcome, one round of the loops `uintUnbiased`, `uintBiasedLoop` and `findLoop`,
  the coins (`coin thr`; the coin of `repeat.more`, which in every state draws `coinBits` bits and decides by
  `coinDecision`).
-/
import RapidModel.Prim
import RapidProofs.Replay

namespace Rapid

/-- `p k` either continues as `k a` for some `a` satisfying `P` (after recording some words,
    with the same `*T`), or ends with `invalid data` / out-of-fuel without calling `k` -/
def Yields {α : Type} (p : (α → Prog) → Prog) (P : α → Prop) : Prop :=
  ∀ (k : α → Prog) (src : Src) (ts : TS),
    (∃ a, P a ∧ ∃ src' used kept toks ov, used ≠ [] ∧
        (p k).run src ts = ((k a).run src' ts).after used kept toks [] ov) ∨
    (∃ e, ((p k).run src ts).res = .error e ∧ (e.isInvalid = true ∨ e = .fuel) ∧ ((p k).run src ts).evs = [])

/-- some words `ws` make `p` continue with `a` -/
def ReachesVal {α : Type} (p : (α → Prog) → Prog) (a : α) : Prop :=
  ∃ ws : List UInt64, ∀ (k : α → Prog) (rest : List UInt64) (ts : TS),
    ∃ used kept toks, used ≠ [] ∧
      (p k).run (.buf (ws ++ rest)) ts = ((k a).run (.buf rest) ts).after used kept toks [] false

theorem vu_uv (u : UInt64) : vu (uv u) = u := by
  simp [vu, uv]

theorem run_draw_group (l : String) (s : Bool) (n : Nat) (f : UInt64 → Val) (d : Val → Bool) (k : Val → Prog)
    (src : Src) (ts : TS) :
    (Prog.group l s (.draw n fun u => .ret (f u)) d k).run src ts =
      match src.next n with
      | none => { Out.ofRes (.error (.invalid "overrun")) src ts with overran := true, toks := [.opn l s, .abort] }
      | some (u, src') =>
        ((k (f u)).run src' ts).after [u] (if d (f u) then [] else [u]) [.opn l s, .w u, .cls (d (f u))] [] false := by
  simp only [Prog.run]
  cases h : src.next n with
  | none => simp [Out.ofRes]
  | some r =>
    obtain ⟨u, src'⟩ := r
    simp [Out.ofRes, Out.after]

section
variable {l : String} {s : Bool} {b : Prog} {d : Val → Bool} {k : Val → Prog} {src : Src} {ts : TS}

theorem group_run_error {e : Err} (h : (b.run src ts).res = .error e) :
    (Prog.group l s b d k).run src ts = { b.run src ts with toks := .opn l s :: (b.run src ts).toks ++ [.abort] } := by
  simp only [Prog.run, h]

/-- a kept group that recorded nothing: the assertion of `endGroup` -/
theorem group_run_assert {v : Val} (h : (b.run src ts).res = .ok v) (hc : ¬ (d v = true ∨ (b.run src ts).used ≠ [])) :
    (Prog.group l s b d k).run src ts =
      { b.run src ts with res := .error (.panic groupAssertMsg siteGroupAssert), toks := .opn l s :: (b.run src ts).toks ++ [.abort] } := by
  have hd : d v = false := by simpa using fun h => hc (Or.inl h)
  have hu : (b.run src ts).used = [] := by simpa using fun h => hc (Or.inr h)
  simp [Prog.run, h, hd, hu]

theorem group_run_cont {v : Val} (h : (b.run src ts).res = .ok v) (hc : d v = true ∨ (b.run src ts).used ≠ []) :
    (Prog.group l s b d k).run src ts =
      ((k v).run (b.run src ts).src (b.run src ts).ts).after (b.run src ts).used (if d v then [] else (b.run src ts).kept)
        (.opn l s :: (b.run src ts).toks ++ [.cls (d v)]) (b.run src ts).evs (b.run src ts).overran := by
  have : (!d v && (b.run src ts).used.isEmpty) = false := by rcases hc with hc | hc <;> simp [hc]
  simp only [Prog.run, h, this, Bool.false_eq_true, if_false]

/-- the body's run is that of `.ret v` after a recording (a fragment in continuation-passing style that handed `v` on;
    `W >>- fun w => .ret (f w)` after `W` returned): `group_run_cont` and `group_run_assert` in terms of that recording -/
theorem group_run_ret {v : Val} {src' : Src} {ts' : TS} {u kp : List UInt64} {tk : List Tok} {ev : List Ev} {ov : Bool}
    (hb : b.run src ts = ((Prog.ret v).run src' ts').after u kp tk ev ov) :
    (Prog.group l s b d k).run src ts =
      if d v = true ∨ u ≠ [] then ((k v).run src' ts').after u (if d v then [] else kp) (.opn l s :: tk ++ [.cls (d v)]) ev ov
      else ((Prog.throw (.panic groupAssertMsg siteGroupAssert)).run src' ts').after u kp (.opn l s :: tk ++ [.abort]) ev ov := by
  have hres : (b.run src ts).res = .ok v := by rw [hb]; rfl
  have hu : (b.run src ts).used = u := by rw [hb]; exact List.append_nil u
  by_cases hc : d v = true ∨ u ≠ []
  · rw [if_pos hc, group_run_cont hres (hu ▸ hc), hb]
    simp only [Prog.run, Out.ofRes, Out.after, List.append_nil, Bool.or_false]
  · rw [if_neg hc, group_run_assert hres (hu ▸ hc), hb]
    simp only [Prog.run, Out.ofRes, Out.after, List.append_nil, Bool.or_false]
end

theorem uintUnbiased_step (max : UInt64) (k : UInt64 → Prog) (n : Nat) (src : Src) (ts : TS) :
    (uintUnbiased max k (n + 1)).run src ts =
      match src.next (len64 max) with
      | none => { Out.ofRes (.error (.invalid "overrun")) src ts with overran := true, toks := [.opn intBitsLabel false, .abort] }
      | some (u, src') =>
        if u ≤ max then ((k u).run src' ts).after [u] [u] [.opn intBitsLabel false, .w u, .cls false] [] false
        else ((uintUnbiased max k n).run src' ts).after [u] [] [.opn intBitsLabel false, .w u, .cls true] [] false := by
  simp only [uintUnbiased, run_draw_group]
  cases src.next (len64 max) with
  | none => rfl
  | some r =>
    obtain ⟨u, src'⟩ := r
    simp only [vu_uv]
    by_cases hle : u ≤ max
    · simp [hle, UInt64.not_lt.mpr hle]
    · simp [hle, UInt64.not_le.mp hle]

theorem uintBiasedLoop_step (max : UInt64) (g bitlen : Nat) (k : UInt64 → Bool → Bool → Prog) (n : Nat) (src : Src) (ts : TS) :
    (uintBiasedLoop max g bitlen k (n + 1)).run src ts =
      match src.next bitlen with
      | none => { Out.ofRes (.error (.invalid "overrun")) src ts with overran := true, toks := [.opn intBitsLabel false, .abort] }
      | some (u, src') =>
        if bitlen > 64 ∨ u ≤ max then
          ((k (if bitlen > 64 then max else u) ((if bitlen > 64 then max else u) == 0 && g == 1)
              ((if bitlen > 64 then max else u) == max && decide (bitlen ≥ g))).run src' ts).after
            [u] [u] [.opn intBitsLabel false, .w u, .cls false] [] false
        else ((uintBiasedLoop max g bitlen k n).run src' ts).after [u] [] [.opn intBitsLabel false, .w u, .cls true] [] false := by
  simp only [uintBiasedLoop, run_draw_group]
  cases src.next bitlen with
  | none => rfl
  | some r =>
    obtain ⟨u, src'⟩ := r
    simp only [vu_uv]
    by_cases hb : bitlen > 64
    · simp [hb]
    · by_cases hle : u ≤ max
      · simp [hb, hle]
      · simp [hb, hle]

theorem findLoop_step (body : Prog) (ok : Val → Bool) (k : Val → Prog) (n : Nat) (src : Src) (ts : TS) :
    (findLoop body ok k (n + 1)).run src ts =
      match (body.run src ts).res with
      | .error _ => { body.run src ts with toks := .opn tryLabel false :: (body.run src ts).toks ++ [.abort] }
      | .ok v =>
        if ok v then
          if (body.run src ts).used.isEmpty then
            { body.run src ts with res := .error (.panic groupAssertMsg siteGroupAssert),
                                   toks := .opn tryLabel false :: (body.run src ts).toks ++ [.abort] }
          else ((k v).run (body.run src ts).src (body.run src ts).ts).after (body.run src ts).used (body.run src ts).kept
                 (.opn tryLabel false :: (body.run src ts).toks ++ [.cls false]) (body.run src ts).evs (body.run src ts).overran
        else ((findLoop body ok k n).run (body.run src ts).src (body.run src ts).ts).after (body.run src ts).used []
               (.opn tryLabel false :: (body.run src ts).toks ++ [.cls true]) (body.run src ts).evs (body.run src ts).overran := by
  simp only [findLoop, Prog.run]
  cases (body.run src ts).res with
  | error e => rfl
  | ok v =>
    by_cases hok : ok v = true
    · by_cases hu : (body.run src ts).used.isEmpty = true
      · simp [hok, hu]
      · simp [hok, hu]
    · simp [hok]

/-- number of bits the coin of `more` draws in state `s` -/
def coinBits (c : RCfg) (s : RSt) : Nat :=
  if s.count < c.minC then 53 else if s.force then 0 else 53

/-- the decision of the coin of `more` in state `s` on the recorded word `w` -/
def coinDecision (c : RCfg) (s : RSt) (w : UInt64) : Bool :=
  if s.count < c.minC then decide (thrAlways ≤ w)
  else if s.force then false
  else if s.count ≥ c.maxC then decide (thrNever ≤ w)
  else decide (c.thr ≤ w)

theorem mask53_lt (w : UInt64) : mask 53 w < thrNever :=
  UInt64.lt_of_le_of_lt UInt64.and_le_right (by decide : bitmask64 53 < thrNever)

theorem next53_lt {src src' : Src} {u : UInt64} (h : src.next 53 = some (u, src')) : u < thrNever :=
  next_masked h ▸ mask53_lt u

theorem bool_beq_vTrue (b : Bool) : (Val.bool b == vTrue) = b := by
  cases b <;> rfl

theorem coin_run (thr : UInt64) (kk : Bool → Prog) (src : Src) (ts : TS) :
    (coin thr kk).run src ts =
      match src.next 53 with
      | none => { Out.ofRes (.error (.invalid "overrun")) src ts with overran := true, toks := [.opn coinLabel false, .abort] }
      | some (w, src') => ((kk (decide (thr ≤ w))).run src' ts).after [w] [w] [.opn coinLabel false, .w w, .cls false] [] false := by
  simp only [coin, run_draw_group]
  cases src.next 53 with
  | none => rfl
  | some r => simp [bool_beq_vTrue]

theorem moreCoin_run (c : RCfg) (s : RSt) (kk : Bool → Prog) (src : Src) (ts : TS) :
    (moreCoin c s kk).run src ts =
      match src.next (coinBits c s) with
      | none => { Out.ofRes (.error (.invalid "overrun")) src ts with overran := true, toks := [.opn coinLabel false, .abort] }
      | some (w, src') =>
        ((kk (coinDecision c s w)).run src' ts).after [w] [w] [.opn coinLabel false, .w w, .cls false] [] false := by
  simp only [moreCoin, coinBits, coinDecision]
  by_cases h1 : s.count < c.minC
  · simp only [h1, if_true, coin_run]
  · simp only [h1, if_false]
    by_cases h2 : s.force = true
    · simp only [h2, if_true, run_draw_group]
      cases src.next 0 with
      | none => rfl
      | some r => simp
    · simp only [h2, if_false, Bool.false_eq_true]
      by_cases h3 : s.count ≥ c.maxC
      · simp only [h3, if_true, coin_run]
      · simp only [h3, if_false, coin_run]

theorem yields_moreCoin (c : RCfg) (s : RSt) : Yields (moreCoin c s) (fun _ => True) := by
  intro k src ts
  rw [moreCoin_run]
  cases src.next (coinBits c s) with
  | none => exact .inr ⟨_, rfl, .inl rfl, rfl⟩
  | some r => exact .inl ⟨_, trivial, r.2, _, _, _, _, List.cons_ne_nil _ _, rfl⟩

end Rapid
