/-
  RapidProofs.Cleanups — the cleanup phase empties the stack and clears the context, so
  `checkOnce` hands back a clean `*T`.
-/
import RapidModel.Engine

namespace Rapid

theorem ctree_size_pos (c : CTree) : 0 < c.size := by
  cases c <;> exact Nat.succ_pos _

/- The cases of `fun_induction CTree.run`, in the order of the definition: 1 `done`, 2 `emit`, 3 `errorf`, 4 `throw`, 5 `reg`,
   6 `ctx`; those of `fun_induction runStack`: 1 no fuel, 2 empty stack, 3 a callback `c` is popped and run (`o1`), then the
   rest (`o2`). -/

theorem ctree_run_ctx (c : CTree) (ts : TS) : (c.run ts).ts.ctx = ts.ctx := by
  fun_induction CTree.run c ts with
  | case1 | case4 => rfl
  | case2 _ _ _ _ ih | case3 _ _ _ _ ih | case5 _ _ _ ih | case6 _ _ _ ih => exact ih

@[simp] theorem stackSize_nil : stackSize [] = 0 := rfl
@[simp] theorem stackSize_cons (c : CTree) (cs : List CTree) : stackSize (c :: cs) = c.size + stackSize cs := by
  simp [stackSize]

/-- the termination measure of `T.cleanup`'s loop: a callback may register new ones (`reg`), but running it lowers the
    size of callback plus stack — so fuel `stackSize` is enough for `runStack` (`runStack_empties`) -/
theorem ctree_run_stack (c : CTree) (ts : TS) : stackSize (c.run ts).ts.cleanups + 1 ≤ c.size + stackSize ts.cleanups := by
  fun_induction CTree.run c ts
  all_goals simp +zetaDelta only [CTree.size, stackSize_cons] at *; omega

theorem stackSize_zero {cs : List CTree} (h : stackSize cs = 0) : cs = [] := by
  cases cs with
  | nil => rfl
  | cons c cs => simp only [stackSize_cons] at h; have := ctree_size_pos c; omega

theorem runStack_empties (fuel : Nat) (ts : TS) (h : stackSize ts.cleanups ≤ fuel) : (runStack fuel ts).ts.cleanups = [] := by
  fun_induction runStack fuel ts with
  | case1 => exact stackSize_zero (Nat.le_zero.mp h)
  | case2 _ _ hc => exact hc
  | case3 fuel ts c rest hc o1 _ ih =>
    have : stackSize o1.ts.cleanups + 1 ≤ c.size + stackSize rest := ctree_run_stack c { ts with cleanups := rest }
    rw [hc, stackSize_cons] at h
    exact ih (by omega)

theorem runStack_ctx (fuel : Nat) (ts : TS) : (runStack fuel ts).ts.ctx = ts.ctx := by
  fun_induction runStack fuel ts with
  | case1 | case2 => rfl
  | case3 _ _ c _ _ _ _ ih => exact ih.trans (ctree_run_ctx c _)

/-- `T.cleanup()` in one piece: the callbacks run on the `*T` without its context, whether it had one or not -/
theorem cleanupPhase_eq (ts : TS) : cleanupPhase ts =
    { runStack (stackSize ts.cleanups) { ts with ctx := none } with
      evs := .cleanupBegin :: (match ts.ctx with | some id => [Ev.cancel id] | none => []) ++
        (runStack (stackSize ts.cleanups) { ts with ctx := none }).evs ++ [.cleanupEnd] } := by
  obtain ⟨_, _, _, ctx, _⟩ := ts
  cases ctx <;> rfl

theorem cleanupPhase_clean (ts : TS) : (cleanupPhase ts).ts.cleanups = [] ∧ (cleanupPhase ts).ts.ctx = none := by
  rw [cleanupPhase_eq]
  exact ⟨runStack_empties _ _ (Nat.le_refl _), runStack_ctx ..⟩

/-- nothing is pending on the `*T`: what `newT` gives and what `checkOnce` leaves behind -/
def Clean (ts : TS) : Prop := ts.failed = none ∧ ts.cleanups = [] ∧ ts.ctx = none

theorem clean_fresh : Clean TS.fresh := ⟨rfl, rfl, rfl⟩

theorem checkOnce_clean_after (p : Prog) (src : Src) (ts : TS) : Clean (checkOnce p src ts).ts := by
  unfold checkOnce
  exact ⟨rfl, cleanupPhase_clean _⟩

end Rapid
