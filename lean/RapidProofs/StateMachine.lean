/-
  RapidProofs.StateMachine — the check/action discipline of `T.Repeat` as a trace language.

  The invariant and the actions are arbitrary programs; they are instrumented with marker events
  (invariant begins / returned, action `i` begins / returned) and `T.Error/Errorf/Fail` leaves the
  marker `sig`.  The theorem: for every action set, invariant, bit source and `*T`, the markers of
  a run of `T.Repeat` are accepted by the automaton `step` below, which encodes
    * the invariant runs first, and after every action that returned (and only then);
    * only supplied actions run (index `< n`); no invariant call begins inside an action and no action inside the invariant
      (`inAct false` stands for "inside an action" as well as for "the last action did not return": an `act j` there is read
      as the next attempt, and an action called inside another could only be told by its second `done`);
    * after an action that did not return (skipped / invalid) comes the next attempt, not the invariant;
    * once a failure was signalled nothing new starts (`stopped`), and a run that returns normally
      ends between steps.
  The proof is a Hoare logic over the automaton (`Tr`).  It has a rule for each construct that `T.Repeat` itself is made
  of — `ret`, `throw`, `emit`, `failOnError`, `tick`, `group`, `catchInv` — and for `>>-` and the primitives of utils.go
  (`Yields`); a rule for sequencing takes the triple of what follows as the postcondition of what comes first.  The invariant and the actions, which may use every construct, are not taken apart: all the automaton sees of
  them is `sig`, and that a signal leaves a failure pending on the `*T` is `run_signal` (Signals.lean).
-/
import RapidProofs.PruneGen
import RapidProofs.Signals

namespace Rapid

inductive Mark where
  | chk | chkd | act (i : Nat) | done | sig
deriving DecidableEq, Repr

def mCHK : Nat := 900001
def mCHKD : Nat := 900002
def mDONE : Nat := 900003
def mACT (i : Nat) : Nat := 1000000 + i

def markOf : Ev → Option Mark
  | .user id =>
    if id = mCHK then some .chk else if id = mCHKD then some .chkd else if id = mDONE then some .done
    else if 1000000 ≤ id then some (.act (id - 1000000)) else none
  | .signal => some .sig
  | _ => none

def marks (evs : List Ev) : List Mark := evs.filterMap markOf

theorem marks_append (a b : List Ev) : marks (a ++ b) = marks a ++ marks b := List.filterMap_append

/-- the invariant / an action, instrumented -/
def markedCheck (c : Prog) : Prog := .emit mCHK (c >>- fun _ => .emit mCHKD (.ret .nil))
def markedAction (i : Nat) (a : Prog) : Prog := .emit (mACT i) (a >>- fun _ => .emit mDONE (.ret .nil))

/-- user code does not emit the reserved marker ids -/
def Unmarked (p : Prog) : Prop := ∀ src ts id, Ev.user id ∈ (p.run src ts).evs → id < 900000

inductive St where
  | start                  -- nothing has run
  | inChk (dead : Bool)    -- inside the invariant; `dead`: a failure was signalled
  | idle                   -- between steps, the invariant holds
  | inAct (dead : Bool)    -- inside an action, or after an action that did not return
  | afterDone              -- an action returned without a signalled failure: the invariant is due
  | stopped                -- a failure was signalled and the call it was signalled in has returned
deriving DecidableEq, Repr

def step (n : Nat) : St → Mark → Option St
  | .start, .chk => some (.inChk false)
  | .inChk _, .sig => some (.inChk true)
  | .inChk false, .chkd => some .idle
  | .inChk true, .chkd => some .stopped
  | .idle, .act i => if i < n then some (.inAct false) else none
  | .inAct _, .sig => some (.inAct true)
  | .inAct false, .done => some .afterDone
  | .inAct true, .done => some .stopped
  | .inAct false, .act i => if i < n then some (.inAct false) else none
  | .afterDone, .chk => some (.inChk false)
  | _, _ => none

def runA (n : Nat) : St → List Mark → Option St
  | s, [] => some s
  | s, m :: ms => (step n s m).bind fun s' => runA n s' ms

theorem runA_append (n : Nat) : ∀ (a b : List Mark) (s : St), runA n s (a ++ b) = (runA n s a).bind fun s' => runA n s' b
  | [], b, s => rfl
  | m :: a, b, s => by
    simp only [List.cons_append, runA]
    cases step n s m with
    | none => rfl
    | some s' => exact runA_append n a b s'

/-- where a run that ends with an error (of any kind: failure, panic, invalid data) may stop:
    anywhere once the first invariant call has begun -/
def finalErr : St → Bool
  | .start => false
  | _ => true

/-- where a run that returns normally may stop: between steps -/
def finalOk : St → Bool
  | .idle => true
  | .inAct false => true
  | _ => false

def dead : St → Bool
  | .inChk d => d
  | .inAct d => d
  | .stopped => true
  | _ => false

def Inv (s : St) (ts : TS) : Prop := dead s = true → ts.failed.isSome = true

/-- from automaton state `st` (and a `*T` in which a failure is pending if `st` says so) the
    program's markers lead to a state `s'`: with `Q v s'` if it returns `v`, with `QI s'` if it
    ends with invalid data; if it ends with an error the run may stop there -/
def Tr (n : Nat) (st : St) (p : Prog) (Q : Val → St → Prop) (QI : St → Prop) : Prop :=
  ∀ src ts, Inv st ts →
    ∃ s', runA n st (marks (p.run src ts).evs) = some s' ∧ Inv s' (p.run src ts).ts ∧
      match (p.run src ts).res with
      | .ok v => Q v s'
      | .error e => finalErr s' = true ∧ (e.isInvalid = true → QI s')

/-- what `Tr` promises of one run `o` begun in automaton state `st` (`Tr` is this, for every run of `p`) -/
def Post (n : Nat) (st : St) (o : Out) (Q : Val → St → Prop) (QI : St → Prop) : Prop :=
  ∃ s', runA n st (marks o.evs) = some s' ∧ Inv s' o.ts ∧
    match o.res with
    | .ok v => Q v s'
    | .error e => finalErr s' = true ∧ (e.isInvalid = true → QI s')

theorem markOf_chk : markOf (.user mCHK) = some .chk := by decide
theorem markOf_chkd : markOf (.user mCHKD) = some .chkd := by decide
theorem markOf_done : markOf (.user mDONE) = some .done := by decide
theorem markOf_act (i : Nat) : markOf (.user (mACT i)) = some (.act i) := by
  rw [markOf, mACT, mCHK, mCHKD, mDONE, if_neg, if_neg, if_neg, if_pos, Nat.add_sub_cancel_left] <;> omega
theorem markOf_unreserved {id : Nat} (h : id < 900000) : markOf (.user id) = none := by
  rw [markOf, mCHK, mCHKD, mDONE, if_neg, if_neg, if_neg, if_neg] <;> omega

theorem mem_marks_unreserved {evs : List Ev} (hu : ∀ id, Ev.user id ∈ evs → id < 900000) {m : Mark} (hm : m ∈ marks evs) :
    m = .sig ∧ Ev.signal ∈ evs := by
  obtain ⟨ev, hev, hmk⟩ := List.mem_filterMap.mp hm
  cases ev with
  | user id => cases (markOf_unreserved (hu id hev)).symm.trans hmk
  | signal => exact ⟨(Option.some.inj hmk).symm, hev⟩
  | _ => cases hmk

/-- between steps: the invariant holds, or the last attempt did not return -/
def AtHead (s : St) : Prop := s = .idle ∨ s = .inAct false

theorem atHead_finalErr {s : St} (h : AtHead s) : finalErr s = true := by
  rcases h with rfl | rfl <;> rfl
theorem atHead_finalOk {s : St} (h : AtHead s) : finalOk s = true := by
  rcases h with rfl | rfl <;> rfl
theorem atHead_not_dead {s : St} (h : AtHead s) : dead s = false := by
  rcases h with rfl | rfl <;> rfl

def T1 : St → Prop := fun _ => True

/-- what one iteration of the loop of `T.Repeat` leaves -/
def QStep (v : Val) (s' : St) : Prop := (v = rAcc .nil ∧ s' = .idle) ∨ (v = rRej ∧ s' = .inAct false)

section Rules
variable {n : Nat} {st : St} {Q R : Val → St → Prop} {QI RI : St → Prop}

theorem Post.after {s1 : St} {e : List Ev} {o : Out} {u k : List UInt64} {t : List Tok} {ov : Bool}
    (h1 : runA n st (marks e) = some s1) (h : Post n s1 o Q QI) : Post n st (o.after u k t e ov) Q QI := by
  obtain ⟨s2, hr, hinv, hm⟩ := h
  exact ⟨s2, by simp [marks_append, runA_append, h1, hr], hinv, hm⟩

theorem Post.error {o : Out} {e : Err} {s' : St} (he : o.res = .error e) (hr : runA n st (marks o.evs) = some s')
    (hinv : Inv s' o.ts) (hf : finalErr s' = true) (hi : e.isInvalid = true → QI s') : Post n st o Q QI :=
  ⟨s', hr, hinv, by rw [he]; exact ⟨hf, hi⟩⟩

theorem tr_weaken {p : Prog} (h : Tr n st p Q QI) (hq : ∀ v s, Q v s → R v s) (hi : ∀ s, QI s → RI s) : Tr n st p R RI := by
  intro src ts hinv
  obtain ⟨s', hr, hinv', hm⟩ := h src ts hinv
  refine ⟨s', hr, hinv', ?_⟩
  revert hm
  split
  · exact hq _ s'
  · exact fun hm => ⟨hm.1, fun he => hi s' (hm.2 he)⟩

theorem tr_ret {v : Val} (h : Q v st) : Tr n st (.ret v) Q QI :=
  fun _ _ hinv => ⟨st, rfl, hinv, h⟩

theorem tr_throw (e : Err) (hf : finalErr st = true) (hi : e.isInvalid = true → QI st) : Tr n st (.throw e) Q QI :=
  fun _ _ hinv => ⟨st, rfl, hinv, hf, hi⟩

theorem tr_bind {p : Prog} {f : Val → Prog} (hp : Tr n st p (fun v s' => Tr n s' (f v) R QI) QI) : Tr n st (p >>- f) R QI := by
  intro src ts hinv
  obtain ⟨s1, hr1, hinv1, hm1⟩ := hp src ts hinv
  split at hm1
  next v hres => rw [bind_run_ok hres]; exact Post.after hr1 (hm1 _ _ hinv1)
  next e hres => rw [bind_run_error hres]; exact Post.error hres hr1 hinv1 hm1.1 hm1.2

theorem tr_emit_mark {st' : St} {id : Nat} {m : Mark} {k : Prog}
    (hid : markOf (.user id) = some m) (hstep : step n st m = some st') (hdead : dead st' = true → dead st = true)
    (hk : Tr n st' k Q QI) : Tr n st (.emit id k) Q QI :=
  fun src ts hinv => Post.after (by simp [marks, hid, runA, hstep]) (hk src ts fun h => hinv (hdead h))

theorem tr_failOnError {site : Nat} {k : Prog}
    (hf : finalErr st = true) (hk : dead st = false → Tr n st k Q QI) : Tr n st (.failOnError site k) Q QI := by
  intro src ts hinv
  simp only [Prog.run]
  cases hfl : ts.failed with
  | some m => exact ⟨st, rfl, hinv, hf, nofun⟩
  | none => exact hk (Bool.eq_false_iff.mpr fun hdd => by simpa [hfl] using hinv hdd) src ts hinv

theorem tr_tick {k : Prog} (hk : Tr n st k Q QI) : Tr n st (.tick k) Q QI :=
  fun src ts hinv => hk src { ts with draws := ts.draws + 1 } hinv

theorem tr_group {l : String} {s : Bool} {b : Prog} {d : Val → Bool} {k : Val → Prog} (hfk : FirstKept b)
    (hb : Tr n st b (fun v s' => Tr n s' (k v) R QI) QI) : Tr n st (.group l s b d k) R QI := by
  intro src ts hinv
  obtain ⟨s1, hr1, hinv1, hm1⟩ := hb src ts hinv
  split at hm1
  next v hres =>
    -- a group whose body kept a word recorded one: the assertion of `endGroup` does not fire
    rw [group_run_cont hres (.inr fun hu => hfk src ts v hres (List.eq_nil_of_sublist_nil (hu ▸ kept_sublist b src ts)))]
    exact Post.after hr1 (hm1 _ _ hinv1)
  next e hres => rw [group_run_error hres]; exact Post.error hres hr1 hinv1 hm1.1 hm1.2

theorem tr_catchInv {b : Prog} {K : Option Val → Bool → Prog}
    (hb : Tr n st b (fun v s' => ∀ dr, Tr n s' (K (some v) dr) R RI) fun s' => ∀ dr, Tr n s' (K none dr) R RI) :
    Tr n st (.catchInv b K) R RI := by
  intro src ts hinv
  obtain ⟨s1, hr1, hinv1, hm1⟩ := hb src ts hinv
  rw [Prog.run]
  split at hm1
  next v hres => rw [hres]; exact Post.after hr1 (hm1 _ _ _ hinv1)
  next e hres =>
    rw [hres]
    cases e with
    | invalid m => exact Post.after hr1 (hm1.2 rfl _ _ _ hinv1)
    | stop | panic | fuel => exact Post.error hres hr1 hinv1 hm1.1 nofun

theorem tr_yields {α : Type} {p : (α → Prog) → Prog} {P : α → Prop} (hy : Yields p P)
    {k : α → Prog} (hf : finalErr st = true) (hqi : QI st)
    (hk : ∀ a, P a → Tr n st (k a) Q QI) : Tr n st (p k) Q QI := by
  intro src ts hinv
  rcases hy k src ts with ⟨a, ha, src', u, kk, t, ov, _, hrun⟩ | ⟨e, he, _, hev⟩
  · rw [hrun]
    exact Post.after rfl (hk a ha src' ts hinv)
  · -- the automaton stays where it is, and a pending failure stays pending
    exact Post.error he (by rw [hev]; rfl) (fun hd => run_signal _ _ _ (.inl (hinv hd))) hf fun _ => hqi

/-- `S` is one of the two kinds of state inside a call (`inChk`, `inAct`): a signal is absorbed and remembered, a run that
    fails may end there, and the closing marker `mc` leads on to `s1`, or to `stopped` when a failure was signalled -/
structure InCall (n : Nat) (S : Bool → St) (mc : Mark) (s1 : St) : Prop where
  sig : ∀ d, step n (S d) .sig = some (S true)
  close : step n (S false) mc = some s1
  closeDead : step n (S true) mc = some .stopped
  live : dead s1 = false
  fin1 : finalErr s1 = true
  fin : ∀ d, finalErr (S d) = true
  dead : ∀ d, dead (S d) = d

theorem inCall_chk : InCall n .inChk .chkd .idle := by constructor <;> intros <;> rfl
theorem inCall_act : InCall n .inAct .done .afterDone := by constructor <;> intros <;> rfl

section Call
variable {S : Bool → St} {mc : Mark} {s1 : St} (hS : InCall n S mc s1)
include hS

theorem runA_sigs : ∀ (l : List Mark) (d : Bool), (∀ m ∈ l, m = Mark.sig) → runA n (S d) l = some (S (d || l.contains .sig))
  | [], d, _ => by simp [runA]
  | m :: ms, d, h => by
    obtain rfl : m = .sig := h m List.mem_cons_self
    simp [runA, hS.sig, runA_sigs ms true fun x hx => h x (List.mem_cons_of_mem _ hx)]

theorem tr_user {a : Prog} (hu : Unmarked a) {d : Bool} (hq : ∀ v d', Q v (S d')) (hqi : ∀ d', QI (S d')) :
    Tr n (S d) a Q QI := by
  intro src ts hinv
  refine ⟨_, runA_sigs hS _ d fun m hm => (mem_marks_unreserved (hu src ts) hm).1, fun hdd => ?_, ?_⟩
  · rw [hS.dead, Bool.or_eq_true, List.contains_iff_mem] at hdd
    exact run_signal a src ts (hdd.imp (fun h => hinv ((hS.dead d).trans h)) fun h => (mem_marks_unreserved (hu src ts) h).2)
  · split
    · exact hq _ _
    · exact ⟨hS.fin _, fun _ => hqi _⟩

/-- the shape the invariant call (`markedCheck`, `tr_checkCall`) and an action (`markedAction`, `tr_actionCall`) share:
    marker `io`, user code `a`, marker `ic`, then `t.failOnError(); K`.  The opening marker leads to `S false`, `a` can
    only signal, and `K` starts in `s1`: after a signalled failure (`stopped`) `failOnError` does not return. -/
theorem tr_markedCall {mo : Mark} {a K : Prog} {io ic site : Nat}
    (hio : markOf (.user io) = some mo) (hic : markOf (.user ic) = some mc) (ho : step n st mo = some (S false))
    (ha : Unmarked a) (hqi : ∀ d, QI (S d)) (hK : Tr n s1 K Q QI) :
    Tr n st (.emit io ((a >>- fun _ => .emit ic (.ret .nil)) >>- fun _ => .failOnError site K)) Q QI := by
  refine tr_emit_mark hio ho (by simp [hS.dead]) (tr_bind (tr_bind (tr_user hS ha (fun _ d' => ?_) hqi)))
  cases d'
  · exact tr_emit_mark hic hS.close (by simp [hS.live]) (tr_ret (tr_failOnError hS.fin1 fun _ => hK))
  · exact tr_emit_mark hic hS.closeDead (by simp [hS.dead]) (tr_ret (tr_failOnError rfl nofun))

end Call

/-- `sm.check(t); t.failOnError(); K` -/
theorem tr_checkCall {c K : Prog} {site : Nat}
    (hst : step n st .chk = some (.inChk false)) (hc : Unmarked c) (hK : Tr n .idle K Q T1) :
    Tr n st (markedCheck c >>- fun _ => .failOnError site K) Q T1 :=
  tr_markedCall inCall_chk markOf_chk markOf_chkd hst hc (fun _ => trivial) hK

/-- `runAction(t, action)` on the instrumented action `i` -/
theorem tr_actionCall {i : Nat} {a : Prog} {K : Bool → Bool → Prog} (hi : i < n) (hst : AtHead st) (ha : Unmarked a)
    (hK1 : Tr n .afterDone (K false false) R T1) (hK2 : ∀ sk, Tr n (.inAct false) (K true sk) R T1) :
    Tr n st (runActionP (markedAction i a) K) R T1 := by
  have hstep : step n st (.act i) = some (.inAct false) := by
    rcases hst with rfl | rfl <;> exact if_pos hi
  refine tr_catchInv (tr_markedCall inCall_act (markOf_act i) markOf_done hstep ha (fun d dr => ?_) (tr_ret fun _ => hK1))
  refine tr_failOnError rfl fun h => ?_
  obtain rfl : d = false := h
  exact hK2 _

theorem tr_execAction {e : Env} {acts : Nat → Prog} {k : Bool → Prog} (hn0 : 0 < n) (hn : n ≤ 2 ^ 64) (ha : ∀ i, Unmarked (acts i))
    (hk1 : Tr n .afterDone (k true) R T1) (hk2 : Tr n (.inAct false) (k false) R T1) :
    ∀ (tries : Nat) (st : St), AtHead st → Tr n st (execAction e n (fun i => markedAction i (acts i)) k tries) R T1 := by
  intro tries
  induction tries with
  | zero =>
    intro st hst
    exact tr_throw _ (atHead_finalErr hst) nofun
  | succ t ih =>
    intro st hst
    -- `Draw` of the key: `index` in the group of `value`, then `t.draws++`; the automaton stays where it is
    refine tr_group (fk_bind_left (fk_group_keep fk_index)) (tr_bind (tr_group fk_index ?_))
    refine tr_yields (yields_index e.ft n true e.fuel hn0 hn) (atHead_finalErr hst) trivial fun i hi => tr_ret (tr_ret (tr_tick ?_))
    refine tr_actionCall hi hst (ha i) (tr_ret hk1) fun sk => tr_ret ?_
    cases sk
    · exact hk2
    · exact ih _ (Or.inr rfl)

theorem tr_repeatLoop_k {c : RCfg} {stepF k : Val → Prog}
    (hstep : ∀ acc st, AtHead st → Tr n st (stepF acc) QStep T1) (hk : ∀ acc st, AtHead st → Tr n st (k acc) Q T1) :
    ∀ (fuel : Nat) (s : RSt) (acc : Val) (st : St), AtHead st → Tr n st (repeatLoop c stepF k fuel s acc) Q T1 := by
  intro fuel
  induction fuel with
  | zero =>
    intro s acc st hst
    exact tr_throw _ (atHead_finalErr hst) nofun
  | succ f ih =>
    intro s acc st hst
    refine tr_group fk_moreCoin (tr_yields (yields_moreCoin c s) (atHead_finalErr hst) trivial fun cont _ => ?_)
    cases cont
    · exact tr_ret (hk acc st hst)
    · refine tr_bind (tr_weaken (hstep acc st hst) ?_ fun _ h => h)
      rintro v s' (⟨rfl, rfl⟩ | ⟨rfl, rfl⟩)
      · exact tr_ret (ih _ _ _ (Or.inl rfl))
      · split
        · exact tr_throw _ rfl fun _ => trivial
        · exact tr_ret (ih _ _ _ (Or.inr rfl))

end Rules

theorem tr_emit_none {n : Nat} {st : St} {id : Nat} {k : Prog} {Q : Val → St → Prop} {QI : St → Prop}
    (hid : markOf (.user id) = none) (hk : Tr n st k Q QI) : Tr n st (.emit id k) Q QI :=
  fun src ts hinv => Post.after (by simp [marks, hid, runA]) (hk src ts hinv)

theorem tr_repeatLoop {n : Nat} (c : RCfg) (stepF : Val → Prog)
    (hstep : ∀ acc st, AtHead st → Tr n st (stepF acc) QStep T1) :
    ∀ (fuel : Nat) (s : RSt) (acc : Val) (st : St), AtHead st →
      Tr n st (repeatLoop c stepF (fun _ => .ret .nil) fuel s acc) (fun _ s' => AtHead s') T1 :=
  tr_repeatLoop_k hstep fun _ _ h => tr_ret h

/-- **the discipline of `T.Repeat`** as a Hoare triple: from `start` to a state between steps -/
theorem tr_smRepeat {n : Nat} (e : Env) (acts : Nat → Prog) (check : Prog) (hn0 : n ≠ 0) (hn : n ≤ 2 ^ 64)
    (ha : ∀ i, Unmarked (acts i)) (hc : Unmarked check) :
    Tr n .start (smRepeat e n (fun i => markedAction i (acts i)) (markedCheck check)) (fun _ s' => AtHead s') T1 := by
  rw [smRepeat, if_neg hn0]
  refine tr_checkCall rfl hc (tr_repeatLoop _ _ (fun acc st hst => ?_) _ _ _ _ (.inl rfl))
  refine tr_execAction (by omega) hn ha ?_ ?_ _ st hst
  · exact tr_checkCall rfl hc (tr_ret (.inl ⟨rfl, rfl⟩))
  · exact tr_ret (.inr ⟨rfl, rfl⟩)

end Rapid
