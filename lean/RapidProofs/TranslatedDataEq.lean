/-
  RapidProofs.TranslatedDataEq — data.go as translated from /repo on every run against the model:
  the two bit streams (`drawBits` = `Src.next`), the recording calls (`record`, `beginGroup`, `endGroup` = the
  steps of `recGo`); `removeGroup` and `prune` (= `Rec.removeGroup`, `Rec.prune`) are in `TranslatedPruneEq`.
-/
import RapidProofs.TranslatedEq

namespace Rapid

theorem tr_record (data : List UInt64) (dl : Int64) (persist : Bool) (u : UInt64) :
    Translated.recordedBits_record data dl persist u =
      .ok (if persist then data ++ [u] else data, if persist then dl else dl + 1, persist) := by
  cases persist <;> rfl

theorem tr_bufDrawBits (buf data : List UInt64) (dl : Int64) (persist : Bool) (n : Nat) (hn : n < 2 ^ 62)
    (hb : buf.length < 2 ^ 62) :
    Translated.bufBitStream_drawBits buf data dl persist (Int64.ofNat n) =
      match (Src.buf buf).next n with
      | none => .error (.invalidData "overrun")
      | some (u, src') =>
        .ok (u, (match src' with | .buf b => b | .rng _ => []), if persist then data ++ [u] else data,
             if persist then dl else dl + 1, persist) := by
  have hge : decide (Int64.ofNat n ≥ (0 : Int64)) = true := i64_ofNat_nonneg (by omega)
  cases buf with
  | nil => simp [Translated.bufBitStream_drawBits, hge, Go.assert, Go.glen, Src.next, bind, Except.bind]
  | cons w ws =>
    simp only [Translated.bufBitStream_drawBits, hge, Go.assert, glen_cons_beq_zero w (Nat.lt_trans hb (by decide)), idx_cons_zero,
      sliceFrom_cons_one, tr_record, tr_bitmask64,
      i64_ofNat_toUInt64_toNat (show n < 2 ^ 63 by omega), Src.next, mask, bind, Except.bind, if_true, Bool.false_eq_true, if_false, pure, Except.pure]

theorem tr_rngDrawBits (x : Jsf) (data : List UInt64) (dl : Int64) (persist : Bool) (n : Nat) (hn : n < 2 ^ 62) :
    Translated.randomBitStream_drawBits x.a x.b x.c x.d data dl persist (Int64.ofNat n) =
      match (Src.rng x).next n with
      | none => .error .runtime
      | some (u, src') =>
        let y := match src' with | .rng y => y | .buf _ => x
        .ok (u, y.a, y.b, y.c, y.d, if persist then data ++ [u] else data, if persist then dl else dl + 1, persist) := by
  have hge : decide (Int64.ofNat n ≥ (0 : Int64)) = true := i64_ofNat_nonneg (by omega)
  have hle : decide (Int64.ofNat n ≤ (64 : Int64)) = decide (n ≤ 64) := i64_ofNat_le (b := 64) (by omega) (by omega)
  have hr := tr_jsfRand x.a x.b x.c x.d
  by_cases h64 : n ≤ 64
  · simp only [Translated.randomBitStream_drawBits, hge, Go.assert, hle, h64, decide_true, if_true, tr_record, tr_bitmask64,
      i64_ofNat_toUInt64_toNat (show n < 2 ^ 63 by omega), Src.next, mask, bind, Except.bind, pure, Except.pure]
    rw [hr]
  · simp only [Translated.randomBitStream_drawBits, hge, Go.assert, hle, h64, decide_false, Bool.false_eq_true, if_false,
      if_true, tr_record, Src.next, bind, Except.bind, pure, Except.pure]

def giOf (g : Translated.groupInfo) : GI := ⟨g.label, g.standalone, g.begin.toInt.toNat, g.end_.toInt, g.discard⟩

theorem tr_beginGroup (data : List UInt64) (groups : List Translated.groupInfo) (dl : Int64) (l : String) (s : Bool)
    (hd : data.length < 2 ^ 62) (hg : groups.length + 1 < 2 ^ 62) :
    ∃ g, Translated.recordedBits_beginGroup data groups dl true l s =
        .ok (Int64.ofNat groups.length, data, groups ++ [g], dl, true) ∧
      giOf g = ⟨l, s, data.length, -1, false⟩ := by
  refine ⟨{ begin := Go.glen data, end_ := -1, label := l, standalone := s, discard := false }, ?_, ?_⟩
  · simp only [Translated.recordedBits_beginGroup, Bool.not_true, Bool.false_eq_true, if_false, M.pure_eq, glen_eq,
      List.length_append, List.length_singleton, i64_ofNat_pred]
  · simp [giOf, Go.glen, Int64.toInt_ofNat_of_lt (show data.length < 2 ^ 63 by omega)]

theorem tr_endGroup (data : List UInt64) (groups : List Translated.groupInfo) (dl : Int64) (i : Nat) (d : Bool)
    (hi : i < groups.length) (hg : groups.length < 2 ^ 62) :
    Translated.recordedBits_endGroup data groups dl true (Int64.ofNat i) d =
      if d || decide (Go.glen data > (groups[i]).begin) then
        .ok (data, groups.modify i (fun g => { g with end_ := Go.glen data, discard := d }), dl, true)
      else .error .assertion := by
  have hset (f g : Translated.groupInfo → Translated.groupInfo) {β : Type} (k : List Translated.groupInfo → Go.M β) :
      (Go.setIdx groups (Int64.ofNat i) f >>= fun gs => Go.setIdx gs (Int64.ofNat i) g >>= k) = k (groups.modify i (g ∘ f)) := by
    rw [setIdx_ofNat _ (by omega), if_pos hi, M.ok_bind, setIdx_ofNat _ (by omega), List.length_modify, if_pos hi, M.ok_bind,
      List.modify_modify_eq]
  rw [Translated.recordedBits_endGroup, idx_getElem groups hi (by omega), hset, M.ok_bind]
  cases d with
  | true => rfl
  | false => cases decide (Go.glen data > groups[i].begin) <;> rfl

end Rapid
