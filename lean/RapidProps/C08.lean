/-
  C08 — state-machine runs follow the check/action discipline.
  (the Hoare logic behind `repeat_discipline` is in RapidProofs/StateMachine.lean)
-/
import RapidModel.Generated.CallOrders
import RapidModel.Generated.Consts
import RapidProofs.StateMachine
import RapidProofs.TranslatedRepeatEq

namespace Rapid.C08

/-- no actions: `Repeat` returns at once -/
theorem no_actions (e : Env) (actions : Nat → Prog) (check : Prog) : smRepeat e 0 actions check = .ret .nil := rfl

/-- when `validActionTries` attempts in a row were skipped, `Repeat` fails the test case with
    "can't find a valid (non-skipped) action" — a failure, not an endless loop -/
theorem stuck_is_a_failure (e : Env) (n : Nat) (actions : Nat → Prog) (k : Bool → Prog) :
    execAction e n actions k 0 = .throw (.stop noValidActionsMsg siteNoValid) := rfl

/-- the bound on attempts (`tries_source`: it is the constant of the source) -/
theorem attempts_bounded : validActionTries = 100 := rfl

/-- the invariant runs first, and a falsifying invariant ends the run before any action -/
theorem invariant_first (e : Env) (n : Nat) (hn : n ≠ 0) (actions : Nat → Prog) (msg : String) (site : Nat)
    (src : Src) (ts : TS) :
    ((smRepeat e n actions (Prog.fatal msg site)).run src ts).res = .error (.stop msg site) := by
  rw [smRepeat, if_neg hn]; rfl

/-- a non-fatal failure in the initial invariant is caught by the `failOnError` that follows it -/
theorem invariant_errorf_stops (e : Env) (n : Nat) (hn : n ≠ 0) (actions : Nat → Prog) (msg : String)
    (src : Src) (ts : TS) :
    ((smRepeat e n actions (.errorf msg (.ret .nil))).run src ts).res = .error (.stop msg siteInitCheck) := by
  rw [smRepeat, if_neg hn]; rfl

/-- **The check/action discipline, for every action set, invariant, bit source and `*T`.**
    The invariant `check` and the actions `acts i` are arbitrary programs (they may draw, skip
    before or after drawing, fail fatally or not, panic, register cleanups, use Custom generators);
    they are instrumented with the markers `chk/chkd` (invariant begins / returned) and
    `act i/done` (action `i` begins / returned), `sig` marks every `T.Error/Errorf/Fail`.  The
    markers of a run of `T.Repeat` are accepted by the automaton `step`:
      * the first call is the invariant, and the invariant is called after an action exactly when
        that action returned (`done`) and no failure is pending;
      * only the supplied actions `i < n` run; no invariant call begins inside an action, no action inside the invariant, and
        an action that begins before the last one returned is accepted only as the next attempt after one that did not return;
      * after an action that did not return (skipped, invalid data) the next attempt follows — never
        the invariant;
      * after a signalled failure no action and no invariant call begins any more;
      * a run that returns normally ends between two steps, a run that ends with an error may end
        anywhere after the first invariant call began. -/
theorem repeat_discipline (e : Env) (n : Nat) (acts : Nat → Prog) (check : Prog) (hn0 : n ≠ 0) (hn : n ≤ 2 ^ 64)
    (ha : ∀ i, Unmarked (acts i)) (hc : Unmarked check) (src : Src) (ts : TS) :
    ∃ s, runA n .start (marks ((smRepeat e n (fun i => markedAction i (acts i)) (markedCheck check)).run src ts).evs) = some s ∧
      match ((smRepeat e n (fun i => markedAction i (acts i)) (markedCheck check)).run src ts).res with
      | .ok _ => finalOk s = true
      | .error _ => finalErr s = true := by
  obtain ⟨s, hr, _, hm⟩ := tr_smRepeat e acts check hn0 hn ha hc src ts nofun
  refine ⟨s, hr, ?_⟩
  split at hm
  next _ hres => rw [hres]; exact atHead_finalOk hm
  next _ hres => rw [hres]; exact hm.1

/-- what the automaton accepts and rejects (two actions): a regular run; an invariant call after
    an action that did not return; an action after a signalled failure; an action before the first
    invariant call; an action that was not supplied; a normal return right after an action returned -/
example :
    (runA 2 .start [.chk, .chkd, .act 0, .done, .chk, .chkd, .act 1, .act 0, .done, .chk, .chkd]).map finalOk = some true ∧
    runA 2 .start [.chk, .chkd, .act 0, .chk] = none ∧
    runA 2 .start [.chk, .sig, .chkd, .act 0] = none ∧
    runA 2 .start [.act 0] = none ∧
    runA 2 .start [.chk, .chkd, .act 5] = none ∧
    (runA 2 .start [.chk, .chkd, .act 0, .done]).map finalOk = some false := by decide

/-- the hypotheses are satisfiable: programs that emit small ids, draw, fail and skip are `Unmarked` -/
example : Unmarked (.emit 7 (.errorf "x" (.draw 8 fun w => if w = 0 then Prog.skip "s" else .ret .nil))) := by
  intro src ts id h
  have hid : id = 7 := by
    simp only [Prog.run, after_evs] at h
    cases hn : src.next 8 with
    | none => simpa [hn, Out.ofRes] using h
    | some r =>
      simp only [hn, after_evs] at h
      split at h <;> simpa [Prog.skip, Prog.run, Out.ofRes] using h
  omega

theorem tries_source : Rapid.Generated.c_validActionTries = validActionTries ∧
    Rapid.Generated.c_noValidActionsMsg = noValidActionsMsg ∧ Rapid.Generated.flag_steps = 30 :=
  ⟨rfl, rfl, rfl⟩

/-- `T.Repeat`: the statements in order — …, initial `sm.check`, `failOnError`, the loop -/
theorem repeat_order_source :
    Rapid.Generated.order_Repeat = ["call t.Helper", "assign", "call make", "for", "if", "call sort.Strings", "assign", "if",
      "call newRepeat", "assign", "call sm.check", "call t.failOnError", "for"] := rfl

/-- `T.Repeat`, `stateMachine.executeAction` and `runAction` re-read from /repo statement by statement: the model's `smRepeat` /
    `execAction` were written against exactly this text — the invariant and `failOnError` once before the loop; the loop
    `for repeat.more(t.s) { ok := executeAction; if ok { check; failOnError } else { repeat.reject() } }`; an attempt is an
    `action` group around the draw of the key and the call; "skipped" is invalid data with no draw completed (`t.draws`), after
    `failOnError`; `validActionTries` attempts, then `stopTest(noValidActionsMsg)` -/
theorem repeat_body_source : Rapid.Generated.body_T_Repeat =
    ["{", "t.Helper()", "check := func(*T) {}", "actionKeys := make([]string, 0, len(actions))",
     "for key, action := range actions {", "if key != \"\" {", "actionKeys = append(actionKeys, key)", "} else {",
     "check = action", "}", "}", "if len(actionKeys) == 0 {", "return", "}", "sort.Strings(actionKeys)",
     "steps := flags.steps", "if testing.Short() {", "steps /= 2", "}",
     "repeat := newRepeat(-1, -1, float64(steps), \"Repeat\")", "sm := stateMachine{", "check:\t\tcheck,",
     "actionKeys:\tSampledFrom(actionKeys),", "actions:\tactions,", "}", "sm.check(t)", "t.failOnError()",
     "for repeat.more(t.s) {", "ok := sm.executeAction(t)", "if ok {", "sm.check(t)", "t.failOnError()", "} else {",
     "repeat.reject()", "}", "}", "}"] := rfl

theorem executeAction_body_source : Rapid.Generated.body_stateMachine_executeAction =
    ["{", "t.Helper()", "for n := 0; n < validActionTries; n++ {", "i := t.s.beginGroup(actionLabel, false)",
     "action := sm.actions[sm.actionKeys.Draw(t, \"action\")]", "invalid, skipped := runAction(t, action)",
     "t.s.endGroup(i, false)", "if skipped {", "continue", "} else {", "return !invalid", "}", "}",
     "panic(stopTest(noValidActionsMsg))", "}"] := rfl

theorem runAction_body_source : Rapid.Generated.body_runAction =
    ["{", "defer func(draws int) {", "if r := recover(); r != nil {", "if _, ok := r.(invalidData); ok {",
     "t.failOnError()", "invalid = true", "skipped = t.draws == draws", "} else {", "panic(r)", "}", "}",
     "}(t.draws)", "action(t)", "t.failOnError()", "return false, false", "}"] := rfl

/-- the loop of `T.Repeat` around the *translated* `repeat.more` / `repeat.reject` (utils.go, translated on every run) is the
    loop of the model's `smRepeat` — `repeatLoop ⟨0, maxInt, steps-threshold, "Repeat"⟩` —: for every step program (an attempt to
    run an action, then the invariant), source of words and `*T` state the two end with the same result, rest of the source,
    recorded groups, events — an action that could not run is rejected (`rRej`: not counted, its group discarded), one that ran
    is counted — or the model ran out of fuel (the deadline) -/
theorem source_repeat_steps (fe : Go.FEval) (ft : FT) (HB : FloatFactsBits fe ft) (thr pc : UInt64)
    (hcp : Go.CoinOK fe (.ofBits pc) thr) (step : Val → Prog) (hshape : StepShape step) (cf fuel : Nat) (hfuel : fuel < 2 ^ 59)
    (src : Src) (ts : TS) :
    ((repeatLoop ⟨0, maxInt, thr, "Repeat"⟩ step (fun a => .ret a) fuel {} .nil).run src ts).res = .error .fuel ∨
    (Go.StM.run (Go.repeatWhile fe step cf fuel (Go.RS.fresh ⟨0, maxInt, thr, "Repeat"⟩ pc) .nil) (Go.StState.fresh src ts)).core =
      Go.outCore ((repeatLoop ⟨0, maxInt, thr, "Repeat"⟩ step (fun a => .ret a) fuel {} .nil).run src ts) :=
  Go.tr_repeat fe ft HB ⟨0, maxInt, thr, "Repeat"⟩ pc hcp (by show 0 < 2 ^ 62; decide) (by show maxInt < 2 ^ 63; decide) step hshape cf fuel hfuel .nil src ts

end Rapid.C08
